import P0f.Model.Basic
import P0f.Model.WMult
import P0f.Model.Match
import P0f.Spec.Match
import P0f.Lemmas.QSet
import P0f.Lemmas.Match
import P0f.Props.C01
import P0f.Generated.Tables
import P0f.Expected
import P0f.TablesOk
import P0f.Spec.WMult
import P0f.Props.C17
import P0f.Model.Find
import P0f.Spec.Find
import P0f.Props.C02
import P0f.Model.Gate
import P0f.Model.Uptime
import P0f.Spec.Uptime
import P0f.Lemmas.Uptime
import P0f.Lemmas.Q
import P0f.Props.C13
import P0f.Py.Str
import P0f.Model.TcpOptions
import P0f.Model.SigParse
import P0f.Model.Wire
import P0f.Model.Render
import P0f.Lemmas.TcpOptions
import P0f.Lemmas.Bytes
import P0f.Lemmas.Str
import P0f.Lemmas.SigParse
import P0f.Lemmas.Dump
import P0f.Props.C18
import P0f.Props.C09Sig
import P0f.Props.C18Match
import P0f.Props.C09Http
import P0f.Props.C05Serialise
import P0f.Props.C05Bytes
import P0f.Spec.Wire
import P0f.Props.C03
import P0f.Props.C04
import P0f.Model.ScapyOpts
import P0f.Model.Mtu
import P0f.Props.C08
import P0f.Model.Http
import P0f.Spec.Http
import P0f.Props.C06
import P0f.Props.C04Http
import P0f.Props.C07
import P0f.Model.DbParse
import P0f.Model.Api
import P0f.Spec.Db
import P0f.Lemmas.Db
import P0f.Props.C09
import P0f.Props.C10Sig
import P0f.Props.C10
import P0f.Props.C11
import P0f.Props.C15
import P0f.Model.Effects
import P0f.Props.C16
import P0f.Props.C12
import P0f.Model.Impersonate
import P0f.Model.ImpExplain
import P0f.Model.ImpExtract
import P0f.Lemmas.OptEncode
import P0f.Lemmas.Bits
import P0f.Lemmas.ImpFlags
import P0f.Lemmas.ImpOption
import P0f.Lemmas.AlignOptions
import P0f.Lemmas.RunFields
import P0f.Lemmas.SOpt
import P0f.Lemmas.Gate
import P0f.Props.C08RoundTrip
import P0f.Props.C14
import P0f.Props.C05
import P0f.Props.C07Render
import P0f.Model.Q
import P0f.LogicOk.Attr
import P0f.LogicOk.Dict
import P0f.LogicOk.Prelude
import P0f.LogicOk.GuessDistance
import P0f.LogicOk.RoundFrequency
import P0f.LogicOk.Gates
import P0f.LogicOk.WindowMultiplier
import P0f.LogicOk.TcpMatch
import P0f.Model.WireFields
import P0f.LogicOk.FindTcpMatch
import P0f.LogicOk.Wire
import P0f.Model.UptimeFields
import P0f.LogicOk.Uptime
import P0f.LogicOk.Mtu
import P0f.Props.C13Float
import P0f.LogicOk.HeadersMatch
import P0f.LogicOk.Http
import P0f.LogicOk.TcpOptions
import P0f.Model.ImpFields
import P0f.LogicOk.Impersonate
import P0f.LogicOk.FingerprintTcp
import P0f.Model.SigFields
import P0f.LogicOk.SigParse
import P0f.LogicOk.Labels
import P0f.LogicOk.Dump
import P0f.LogicOk.C18Source
import P0f.Glue.ParseFile
import P0f.LogicOk.ParseFile
import P0f.LogicOk.ParseFileSource
import P0f.LogicOk.HttpRead
import P0f.LogicOk.HttpSigParse
import P0f.LogicOk.DivSafe
import P0f.LogicOk.ImpOptions
import P0f.LogicOk.ImpSource
import P0f.Glue.Records
import P0f.LogicOk.GetRandom
