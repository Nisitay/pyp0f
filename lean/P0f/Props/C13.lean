import P0f.Lemmas.Uptime
/-
  C13 — uptime detection computes tick rate and uptime with 32-bit timestamp arithmetic.
-/
namespace P0f

/-- **C13, full statement**: for all timestamp pairs in `[0, 2^32)` (wrap-around included), all
    elapsed times (negative ones too), all packet types / fragment flags and all thresholds in the
    documented domain, the model of `fingerprint_uptime` (integer arithmetic, as the code) equals
    the rational-arithmetic reading of the property. -/
theorem uptime_eq_spec (o : UpOpts) (hD : o.Dom) (flags : Nat) (frag : Bool) (a b : Nat) (ms : Int)
    (ha : a < TWO32) (hb : b < TWO32) :
    fingerprintUptime o flags frag a b ms = specUptime o flags frag a b ms := by
  classical
  rw [fingerprintUptime_dom o hD, tsDiff_eq_ticks a b ha, ← ite_or]
  unfold specUptime
  refine if_ctx_congr (not_validUptime_iff frag _) (fun _ => rfl) fun _ => ?_
  refine if_ctx_congr (skips_iff o hD a b ms) (fun _ => rfl) fun hnv => ?_
  have hms := hD.pos_of_not_skips fun h => hnv ((skips_iff o hD a b ms).1 (.inr h))
  unfold rawFreq
  refine if_ctx_congr (or_congr (backward_iff a b) (not_congr (o.withinScale_iff hD _ ms hms)))
    (fun _ => badReading_eq _) fun _ => ?_
  rw [floor_raw _ ms hms]
  have e : ∀ f : Nat, f * 60 * 60 * 24 = f * 86400 := by intro f; omega
  simp only [e]

/-- "Only non-fragment SYN, SYN+ACK or ACK packets are accepted; others raise PacketError" -/
theorem gate_types (o : UpOpts) (flags : Nat) (frag : Bool) (a b : Nat) (ms : Int) :
    fingerprintUptime o flags frag a b ms = .packetError ↔
      (frag = true ∨ ¬ (tcpType flags = F_SYN ∨ tcpType flags = F_SYN ||| F_ACK ∨ tcpType flags = F_ACK)) :=
  (fingerprintUptime_eq_packetError o flags frag a b ms).trans (not_validUptime_iff frag _)

/-- rounding `f + a` down to a multiple of `d`: a multiple, at most `a` above `f` and less than `d - a` below -/
theorem bucket (f a d : Nat) (had : a < d := by decide) :
    (f + a) / d * d % d = 0 ∧ f ≤ (f + a) / d * d + (d - 1 - a) ∧ (f + a) / d * d ≤ f + a := by
  refine ⟨Nat.mul_mod_left .., ?_, Nat.div_mul_le_self ..⟩
  have := Nat.lt_div_mul_add (a := f + a) (Nat.zero_lt_of_lt had)
  omega

/-- the rounding function over every integer frequency: positive (so `timestamp // tps` is safe),
    the identity on 1..10, a multiple of the bucket step and close to the input elsewhere -/
theorem roundFrequency_spec (f : Nat) :
    1 ≤ roundFrequency f ∧
    (f = 0 → roundFrequency f = 1) ∧
    (1 ≤ f ∧ f ≤ 10 → roundFrequency f = f) ∧
    (11 ≤ f ∧ f ≤ 50 → roundFrequency f % 5 = 0 ∧ f ≤ roundFrequency f + 1 ∧ roundFrequency f ≤ f + 3) ∧
    (51 ≤ f ∧ f ≤ 100 → roundFrequency f % 10 = 0 ∧ f ≤ roundFrequency f + 2 ∧ roundFrequency f ≤ f + 7) ∧
    (101 ≤ f ∧ f ≤ 500 → roundFrequency f % 50 = 0 ∧ f ≤ roundFrequency f + 16 ∧ roundFrequency f ≤ f + 33) ∧
    (501 ≤ f → roundFrequency f % 100 = 0 ∧ f ≤ roundFrequency f + 32 ∧ roundFrequency f ≤ f + 67) := by
  unfold roundFrequency
  refine ⟨?_, fun h => if_pos h, fun h => ?_, fun h => ?_, fun h => ?_, fun h => ?_, fun h => ?_⟩
  · -- positive: 1, `f ≥ 1` itself, or a bucket `(f + a) / d * d` with `d ≤ f + a`
    by_cases h0 : f = 0
    · rw [if_pos h0]
    by_cases h1 : f ≤ 10
    · rw [if_neg h0, if_pos h1]; exact Nat.pos_of_ne_zero h0
    rw [if_neg h0, if_neg h1]
    repeat' split
    all_goals exact Nat.mul_pos (Nat.div_pos (by omega) (by decide)) (by decide)
  · rw [if_neg (by omega), if_pos h.2]
  · rw [if_neg (by omega), if_neg (by omega), if_pos h.2]; exact bucket f 3 5
  · rw [if_neg (by omega), if_neg (by omega), if_neg (by omega), if_pos h.2]; exact bucket f 7 10
  · rw [if_neg (by omega), if_neg (by omega), if_neg (by omega), if_neg (by omega), if_pos h.2]
    exact bucket f 33 50
  · rw [if_neg (by omega), if_neg (by omega), if_neg (by omega), if_neg (by omega), if_neg (by omega)]
    exact bucket f 67 100

/-- a wrap-around is read as the forward advance it is -/
example : ticks 4294967246 50 = 100 := by decide +kernel
/-- a forward reading inside the grace window is used (p0f's u32 complement is huge) -/
example : fingerprintUptime ⟨7, 10, 1500, 1, 25, 600000, 100⟩ F_ACK false 1000 1008 80
    = .verdict 8000 80 100 0 497 := by decide +kernel
example : fingerprintUptime ⟨7, 10, 1500, 1, 25, 600000, 100⟩ F_ACK false 4294967246 50 1000
    = .verdict 100000 1000 100 0 497 := by decide +kernel
example : fingerprintUptime ⟨7, 10, 1500, 1, 25, 600000, 100⟩ F_ACK false 5000 4000 1000 = .badTps := by decide +kernel
example : fingerprintUptime ⟨7, 10, 1500, 1, 25, 600000, 100⟩ F_SYN false 5000 4000 1000 = .noVerdict := by decide +kernel
example : fingerprintUptime ⟨7, 10, 1500, 1, 25, 600000, 100⟩ F_ACK false 5000 4990 50 = .noVerdict := by decide +kernel
example : (⟨7, 10, 1500, 1, 25, 600000, 100⟩ : UpOpts).Dom := ⟨by decide, by decide, by decide, by decide, by decide⟩

end P0f
