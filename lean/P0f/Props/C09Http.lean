import P0f.Lemmas.SigParse
import P0f.Model.Http
/-
  C09 (denotation clause, HTTP and MTU signatures): `HTTPSignature.parse` / `MTUSignature.parse` applied
  to the canonical text of a well-formed signature give back exactly that signature.  The interesting part
  is the regular expression `,(?![^\[]*\])` that splits the header field: commas inside a `[value]` do not
  separate headers, every other comma does.
-/
namespace P0f
open P0f.Py

theorem parseMtuSig_render (n : Nat) (h : 1 ≤ n ∧ n ≤ 65535) : parseMtuSig (natStr n) = some n := by
  unfold parseMtuSig
  exact parseNumberN_natStr h.1 h.2

def renderSigHdr (h : SigHdr) : Bytes :=
  (if h.optional then ['?'] else []) ++ h.name ++
    (match h.value with
     | none => []
     | some v => '=' :: '[' :: (v ++ [']']))

def renderHttpVer : Option Nat → Bytes
  | none => ['*'] | some 0 => ['0'] | some _ => ['1']

def renderHttpSig (s : HttpSig) : Bytes :=
  [':'].intercalate [renderHttpVer s.version, joinComma (s.headers.map renderSigHdr), joinComma s.absent,
    s.software.getD []]

/-- a header name as the grammar can carry it: not empty, no leading `?` (the optional mark), none of the delimiters `,`
    (between headers), `=` (before a value), `:` (between fields), `[` `]` (around a value) -/
def NameOk (n : Bytes) : Prop :=
  n ≠ [] ∧ n.head? ≠ some '?' ∧ ∀ c ∈ n, c ≠ ',' ∧ c ≠ '=' ∧ c ≠ ':' ∧ c ≠ '[' ∧ c ≠ ']'

/-- a `[value]`: commas are allowed, the field separator and the brackets are not -/
def ValOk (v : Bytes) : Prop := ∀ c ∈ v, c ≠ ':' ∧ c ≠ '[' ∧ c ≠ ']'

def SigHdr.WF (h : SigHdr) : Prop := NameOk h.name ∧ ∀ v, h.value = some v → ValOk v

structure HttpSig.WF (s : HttpSig) : Prop where
  ver : s.version = none ∨ s.version = some 0 ∨ s.version = some 1
  hdrs : ∀ h ∈ s.headers, h.WF
  absent : (∀ a ∈ s.absent, ',' ∉ a ∧ ':' ∉ a ∧ lower a = a) ∧ s.absent ≠ [[]]
  soft : ∀ v, s.software = some v → v ≠ [] ∧ ':' ∉ v

def NoDelim (l : Bytes) : Prop := ∀ c ∈ l, c ≠ ',' ∧ c ≠ '=' ∧ c ≠ ':' ∧ c ≠ '[' ∧ c ≠ ']'

theorem NoDelim.comma {l : Bytes} (h : NoDelim l) : ∀ c ∈ l, c ≠ ',' := fun c hc => (h c hc).1
theorem NoDelim.eq {l : Bytes} (h : NoDelim l) : '=' ∉ l := fun hc => (h _ hc).2.1 rfl
theorem NoDelim.colon {l : Bytes} (h : NoDelim l) : ':' ∉ l := fun hc => (h _ hc).2.2.1 rfl
theorem NoDelim.brackets {l : Bytes} (h : NoDelim l) : ∀ c ∈ l, c ≠ '[' ∧ c ≠ ']' := fun c hc => (h c hc).2.2.2

theorem renderName_chars (h : SigHdr) (hw : h.WF) : NoDelim ((if h.optional then ['?'] else []) ++ h.name) := by
  obtain ⟨⟨_, _, hname⟩, _⟩ := hw
  intro c hc
  rcases List.mem_append.mp hc with hc | hc
  · have : c = '?' := by cases ho : h.optional <;> simp [ho] at hc; exact hc
    subst this; decide
  · exact hname c hc

theorem splitHeadersGo_comma (rest cur : Bytes) :
    splitHeadersGo (',' :: rest) cur =
      if closesBracket rest then splitHeadersGo rest (',' :: cur) else cur.reverse :: splitHeadersGo rest [] :=
  splitHeadersGo.eq_2 cur rest

theorem splitHeadersGo_other {c : Char} (hc : c ≠ ',') (rest cur : Bytes) :
    splitHeadersGo (c :: rest) cur = splitHeadersGo rest (c :: cur) :=
  splitHeadersGo.eq_3 cur c rest hc

theorem closesBracket_other {c : Char} (hc : c ≠ '[' ∧ c ≠ ']') (rest : Bytes) :
    closesBracket (c :: rest) = closesBracket rest :=
  closesBracket.eq_4 c rest hc.2 hc.1

theorem splitHeadersGo_plain (p r cur : Bytes) (hp : ∀ c ∈ p, c ≠ ',') :
    splitHeadersGo (p ++ r) cur = splitHeadersGo r (p.reverse ++ cur) := by
  induction p generalizing cur with
  | nil => rfl
  | cons c t ih =>
    rw [List.cons_append, splitHeadersGo_other (hp c (by simp)), ih _ fun x hx => hp x (by simp [hx])]
    simp

theorem closesBracket_plain (p r : Bytes) (hp : ∀ c ∈ p, c ≠ '[' ∧ c ≠ ']') :
    closesBracket (p ++ r) = closesBracket r := by
  induction p with
  | nil => rfl
  | cons c t ih => rw [List.cons_append, closesBracket_other (hp c (by simp)), ih fun x hx => hp x (by simp [hx])]

theorem closesBracket_item (h : SigHdr) (hw : h.WF) (r : Bytes) :
    closesBracket (renderSigHdr h ++ r) = if h.value.isSome then false else closesBracket r := by
  unfold renderSigHdr
  rw [List.append_assoc, closesBracket_plain _ _ (renderName_chars h hw).brackets]
  cases h.value <;> rfl

/-- inside a `[value]` commas are kept -/
theorem splitHeadersGo_val (v r cur : Bytes) (hv : ValOk v) :
    splitHeadersGo (v ++ ']' :: r) cur = splitHeadersGo (']' :: r) (v.reverse ++ cur) := by
  induction v generalizing cur with
  | nil => rfl
  | cons c t ih =>
    have ht : ValOk t := fun x hx => hv x (by simp [hx])
    have : splitHeadersGo (c :: (t ++ ']' :: r)) cur = splitHeadersGo (t ++ ']' :: r) (c :: cur) := by
      by_cases hc : c = ','
      · rw [hc, splitHeadersGo_comma, closesBracket_plain t _ fun x hx => (ht x hx).2]
        rfl
      · exact splitHeadersGo_other hc _ _
    rw [List.cons_append, this, ih _ ht]
    simp

theorem splitHeadersGo_item (h : SigHdr) (hw : h.WF) (r cur : Bytes) :
    splitHeadersGo (renderSigHdr h ++ r) cur = splitHeadersGo r ((renderSigHdr h).reverse ++ cur) := by
  unfold renderSigHdr
  rw [List.append_assoc, splitHeadersGo_plain _ _ cur (renderName_chars h hw).comma]
  cases hval : h.value with
  | none => simp
  | some v =>
    have e : ('=' :: '[' :: (v ++ [']'])) ++ r = ['=', '['] ++ (v ++ ']' :: r) := by simp
    rw [e, splitHeadersGo_plain ['=', '['] _ _ (by decide), splitHeadersGo_val v r _ (hw.2 v hval),
      splitHeadersGo_other (by decide)]
    simp

/-- the text after a separating comma never "closes a bracket" -/
theorem closesBracket_items (hs : List SigHdr) (hw : ∀ h ∈ hs, h.WF) :
    closesBracket (joinComma (hs.map renderSigHdr)) = false := by
  induction hs with
  | nil => rfl
  | cons h t ih =>
    have iht := ih fun x hx => hw x (by simp [hx])
    have hh := closesBracket_item h (hw h (by simp))
    cases t with
    | nil =>
      have := hh []
      rw [List.append_nil] at this
      simp only [joinComma, List.map_cons, List.map_nil, List.intercalate_singleton, this]
      cases h.value <;> rfl
    | cons h2 t' =>
      rw [joinComma, List.map_cons, List.map_cons, List.intercalate_cons_cons, List.append_assoc, hh]
      cases h.value with
      | some _ => rfl
      | none => exact iht

/-- the split of a printed header list: one piece per header (onto the piece `cur` under way) -/
theorem splitHeadersGo_join (h : SigHdr) (t : List SigHdr) (hw : ∀ x ∈ h :: t, x.WF) (cur : Bytes) :
    splitHeadersGo (joinComma ((h :: t).map renderSigHdr)) cur = (cur.reverse ++ renderSigHdr h) :: t.map renderSigHdr := by
  induction t generalizing h cur with
  | nil =>
    have := splitHeadersGo_item h (hw h (by simp)) [] cur
    rw [List.append_nil] at this
    simp [joinComma, this, splitHeadersGo]
  | cons h2 t' ih =>
    have hw' : ∀ x ∈ h2 :: t', x.WF := fun x hx => hw x (by simp [hx])
    have hcb := closesBracket_items (h2 :: t') hw'
    have := ih h2 hw' []
    rw [joinComma] at hcb this
    rw [joinComma, List.map_cons, List.map_cons, List.intercalate_cons_cons, List.append_assoc,
      splitHeadersGo_item h (hw h (by simp)), List.singleton_append, splitHeadersGo_comma, ← List.map_cons, hcb, this]
    simp

theorem splitHeaders_join (hs : List SigHdr) (hne : hs ≠ []) (hw : ∀ h ∈ hs, h.WF) (cur : Bytes) :
    splitHeadersGo (joinComma (hs.map renderSigHdr)) cur =
      match hs.map renderSigHdr with
      | [] => []
      | a :: t => (cur.reverse ++ a) :: t := by
  cases hs with
  | nil => exact absurd rfl hne
  | cons h t => exact splitHeadersGo_join h t hw cur

theorem parseSigHeader_render (h : SigHdr) (hw : h.WF) : parseSigHeader (renderSigHdr h) = h := by
  have hnoeq := (renderName_chars h hw).eq
  obtain ⟨⟨hne, hq, _⟩, _⟩ := hw
  obtain ⟨name, optional, value⟩ := h
  have hopt : (((if optional then ['?'] else []) ++ name).take 1 == ['?']) = optional := by
    cases optional with
    | true => simp
    | false =>
      cases name with
      | nil => exact absurd rfl hne
      | cons c t =>
        have : c ≠ '?' := fun e => hq (by simp [e])
        simp [this]
  unfold parseSigHeader renderSigHdr
  cases value with
  | none =>
    rw [List.append_nil, partition_of_not_mem hnoeq]
    simp only [hopt]
    cases optional <;> simp
  | some v =>
    rw [partition_append ('[' :: (v ++ [']'])) hnoeq]
    simp only [hopt]
    cases optional <;> simp

theorem parseSigHeaders_render (hs : List SigHdr) (hw : ∀ h ∈ hs, h.WF) :
    parseSigHeaders (joinComma (hs.map renderSigHdr)) = hs := by
  unfold parseSigHeaders splitHeaders
  cases hs with
  | nil => simp [joinComma, splitHeadersGo]
  | cons h t =>
    rw [splitHeadersGo_join h t hw [], List.reverse_nil, List.nil_append, ← List.map_cons, List.filter_eq_self.mpr, List.map_map]
    · exact (List.map_congr_left fun x hx => parseSigHeader_render x (hw x hx)).trans (List.map_id _)
    · intro x hx
      obtain ⟨y, hy, rfl⟩ := List.mem_map.mp hx
      obtain ⟨⟨hne, _⟩, _⟩ := hw y hy
      rw [Bool.not_eq_true', List.isEmpty_eq_false_iff]
      exact fun e => hne (List.append_eq_nil_iff.mp (List.append_eq_nil_iff.mp e).1).2

theorem renderSigHdr_no_colon (h : SigHdr) (hw : h.WF) : ':' ∉ renderSigHdr h := by
  unfold renderSigHdr
  intro hc
  rcases List.mem_append.mp hc with hc | hc
  · exact (renderName_chars h hw).colon hc
  · cases hval : h.value with
    | none => simp [hval] at hc
    | some v =>
      have : ':' ∉ v := fun hv => (hw.2 v hval _ hv).1 rfl
      simp [hval, this] at hc

theorem parseHttpSig_render_eq (s : HttpSig) (h : s.WF) : parseHttpSig (renderHttpSig s) = some s := by
  obtain ⟨habs, habs1⟩ := h.absent
  have hsplit : splitParts ':' 4 (renderHttpSig s) =
      [renderHttpVer s.version, joinComma (s.headers.map renderSigHdr), joinComma s.absent, s.software.getD []] := by
    refine splitParts_intercalate rfl ?_
    simp only [List.forall_mem_cons]
    refine ⟨?_, ?_, ?_, ?_, nofun⟩
    · rcases h.ver with e | e | e <;> rw [e] <;> decide
    · exact not_mem_intercalate (by decide) (by simpa using fun y hy => renderSigHdr_no_colon y (h.hdrs y hy))
    · exact not_mem_intercalate (by decide) (fun l hl => (habs l hl).2.1)
    · cases hs : s.software with
      | none => simp
      | some v => exact (h.soft v hs).2
  have hver : (if renderHttpVer s.version == ['*'] then some (none : Option Nat)
      else if renderHttpVer s.version == ['0'] then some (some 0)
      else if renderHttpVer s.version == ['1'] then some (some 1) else none) = some s.version := by
    rcases h.ver with e | e | e <;> rw [e] <;> decide
  have habsent : (if (joinComma s.absent).isEmpty then [] else (split ',' (joinComma s.absent)).map lower) = s.absent := by
    rw [← List.map_nil (f := lower), ← apply_ite (List.map lower), commaField_joinComma (fun l hl => (habs l hl).1) habs1]
    exact (List.map_congr_left fun x hx => (habs x hx).2.2).trans (List.map_id _)
  have hsoft : (if (s.software.getD []).isEmpty then none else some (s.software.getD [])) = s.software := by
    cases hs : s.software with
    | none => rfl
    | some v =>
      cases v with
      | nil => exact absurd rfl (h.soft _ hs).1
      | cons _ _ => rfl
  unfold parseHttpSig
  simp only [hsplit, hver, Option.map_some]
  rw [parseSigHeaders_render _ h.hdrs, habsent, hsoft]

/-- **C09, HTTP signatures**: for every well-formed structured HTTP signature (version 0 / 1 / wildcard,
    any sequence of required and optional headers with or without a `[value]` - values may contain commas -,
    any set of absent header names, with or without expected software), `HTTPSignature.parse` of its
    canonical text gives back exactly its version, headers (names, optional marks, values, order), absent
    names and software. -/
theorem parseHttpSig_render (s : HttpSig) (h : s.WF) :
    ∃ r, parseHttpSig (renderHttpSig s) = some r ∧ r.version = s.version ∧ r.headers = s.headers ∧
      r.absent = s.absent ∧ r.software = s.software :=
  ⟨s, parseHttpSig_render_eq s h, rfl, rfl, rfl, rfl⟩

/-! non-vacuity: a signature of the shape the shipped database uses -/
def exHttp : HttpSig :=
  { version := some 1,
    headers := [⟨"Host".toList, false, none⟩, ⟨"Accept".toList, false, some "text/html,*/*;q=0.8".toList⟩,
      ⟨"Cache-Control".toList, true, none⟩, ⟨"User-Agent".toList, false, some []⟩],
    absent := ["accept-charset".toList, "keep-alive".toList], software := some "Firefox/".toList }
example : String.ofList (renderHttpSig exHttp) =
    "1:Host,Accept=[text/html,*/*;q=0.8],?Cache-Control,User-Agent=[]:accept-charset,keep-alive:Firefox/" := by decide +kernel
theorem exHttp_wf : exHttp.WF where
  ver := by decide
  hdrs := by
    intro h hh
    simp only [exHttp, List.mem_cons, List.not_mem_nil, or_false] at hh
    unfold SigHdr.WF NameOk ValOk
    rcases hh with rfl | rfl | rfl | rfl <;> exact ⟨by decide +kernel, by intro v hv; cases hv <;> decide +kernel⟩
  absent := by decide +kernel
  soft := by intro v hv; cases hv; decide +kernel
example : (parseHttpSig (renderHttpSig exHttp)).map (·.headers) = some exHttp.headers := by
  rw [parseHttpSig_render_eq exHttp exHttp_wf]; rfl

end P0f
