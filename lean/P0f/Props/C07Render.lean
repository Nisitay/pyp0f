import P0f.Props.C07
import P0f.Props.C04Http
/-
  C07 — the whole-message theorem: a rendered HTTP message (first line, header lines, blank line, any body;
  every line terminated by CRLF or by a bare LF, chosen per line) is read back as exactly its first line and
  its headers.  Composes the blank-line scan of h11 (`scanLines`, modelled) with the per-line theorems of C07.
-/
namespace P0f
open P0f.Py

structure MsgLine where
  text : Bytes
  crlf : Bool

def MsgLine.term (l : MsgLine) : Bytes := if l.crlf then ['\r', '\n'] else ['\n']

/-- a line the scan returns unchanged: non-empty, no LF inside, and - when it is terminated by a bare LF - not ending in
    CR (h11 deletes one trailing CR per line) -/
def LineOk (l : MsgLine) : Prop :=
  l.text ≠ [] ∧ '\n' ∉ l.text ∧ (l.crlf = false → l.text.getLast? ≠ some '\r')

def renderLines (ls : List MsgLine) : Bytes := ls.flatMap fun l => l.text ++ l.term

def blankLine (crlf : Bool) : Bytes := if crlf then ['\r', '\n'] else ['\n']

theorem LineOk.noBlankStart {l : MsgLine} (hok : LineOk l) (rest : Bytes) : NoBlankStart (l.text ++ l.term ++ rest) := by
  obtain ⟨hne, hnl, hcr⟩ := hok
  match ht : l.text with
  | [] => exact absurd ht hne
  | [c] =>
    have hc : c ≠ '\n' := fun e => hnl (by simp [ht, e])
    refine ⟨by simp [hc], fun t e => ?_⟩
    -- a lone CR: the line is then terminated by CR LF, so CR CR LF follows
    cases hb : l.crlf with
    | false => exact hcr hb (by simp_all)
    | true => simp [MsgLine.term, hb] at e
  | c :: d :: t' =>
    have hc : c ≠ '\n' := fun e => hnl (by simp [ht, e])
    have hd : d ≠ '\n' := fun e => hnl (by simp [ht, e])
    exact ⟨by simp [hc], fun t e => by simp [hd] at e⟩

/-- up to the LF of its terminator: what has been collected of a good line is its text, plus the CR that `dropCr` deletes -/
theorem scan_line (l : MsgLine) (hok : LineOk l) (rest : Bytes) (acc : List Bytes) :
    ∃ cur, scanLines (l.text ++ (l.term ++ rest)) [] acc = scanLines ('\n' :: rest) cur acc ∧
      dropCr cur.reverse = l.text := by
  obtain ⟨_, hnl, hlast⟩ := hok
  rw [scanLines_chars l.text _ [] acc hnl, List.append_nil]
  cases hcr : l.crlf with
  | false => exact ⟨l.text.reverse, by simp [MsgLine.term, hcr], by simp [dropCr, hlast hcr]⟩
  | true =>
    refine ⟨'\r' :: l.text.reverse, ?_, by simp [dropCr]⟩
    simp only [MsgLine.term, hcr, ↓reduceIte, List.cons_append, List.nil_append]
    exact scanLines_char '\r' _ _ acc (by decide)

theorem scan_lf_blank (c : Bool) (body cur : Bytes) (acc : List Bytes) :
    scanLines ('\n' :: (blankLine c ++ body)) cur acc = some (dropCr cur.reverse :: acc).reverse := by
  cases c <;> simp [blankLine, scanLines]

theorem scan_render (ls : List MsgLine) (hok : ∀ l ∈ ls, LineOk l) (hne : ls ≠ []) (c : Bool) (body : Bytes)
    (acc : List Bytes) :
    scanLines (renderLines ls ++ blankLine c ++ body) [] acc = some (acc.reverse ++ ls.map (·.text)) := by
  induction ls generalizing acc with
  | nil => exact absurd rfl hne
  | cons l rest ih =>
    obtain ⟨cur, e, hd⟩ := scan_line l (hok l (by simp)) (renderLines rest ++ (blankLine c ++ body)) acc
    simp only [renderLines, List.flatMap_cons, List.append_assoc] at e ⊢
    rw [e]
    cases rest with
    | nil => simp [scan_lf_blank, hd]
    | cons l2 rest2 =>
      have hb := (hok l2 (by simp)).noBlankStart (renderLines rest2 ++ (blankLine c ++ body))
      have ih' := ih (fun x hx => hok x (by simp [hx])) (by simp) (l.text :: acc)
      simp only [renderLines, List.flatMap_cons, List.append_assoc] at hb ih' ⊢
      rw [hb.scanLines_lf, hd, ih']
      simp

theorem extractLines_render (ls : List MsgLine) (hok : ∀ l ∈ ls, LineOk l) (hne : ls ≠ []) (c : Bool) (body : Bytes) :
    extractLines (renderLines ls ++ blankLine c ++ body) = some (ls.map (·.text)) := by
  cases ls with
  | nil => exact absurd rfl hne
  | cons l rest =>
    have hb := (hok l (by simp)).noBlankStart (renderLines rest ++ blankLine c ++ body)
    rcases extractLines_cases (renderLines (l :: rest) ++ blankLine c ++ body) with ⟨_, hn⟩ | ⟨he, _⟩
    · exact absurd (by simpa [renderLines] using hb) hn
    · rw [he]; simpa using scan_render (l :: rest) hok hne c body []

structure SentHdr where
  name : Bytes
  value : Bytes

def SentHdr.line (h : SentHdr) : Bytes := h.name ++ ':' :: h.value

def SentHdr.Ok (h : SentHdr) : Prop :=
  h.name ≠ [] ∧ ':' ∉ h.name ∧ h.name.head? ≠ some ' ' ∧ h.name.head? ≠ some '\t'

theorem readHeaders_sent (hs : List SentHdr) (hok : ∀ h ∈ hs, h.Ok) (acc : List Hdr) :
    readHeadersGo (hs.map SentHdr.line) acc =
      .ok (acc ++ hs.map fun h => { name := h.name, value := stripB h.value }) := by
  induction hs generalizing acc with
  | nil => simp [readHeadersGo]
  | cons h t ih =>
    obtain ⟨h1, h2, h3, h4⟩ := hok h (by simp)
    simp only [List.map_cons, SentHdr.line]
    rw [header_line h.name h.value _ acc h1 h2 ⟨h3, h4⟩]
    rw [ih (fun x hx => hok x (by simp [hx]))]
    simp

/-- **C07, whole message**: a message made of a first line, header lines `name ":" value` (name non-empty, without
    colon or LF, not starting with SP / HT; value without LF), a blank line and any body - every line terminated by CRLF
    or bare LF, chosen per line, either blank-line form - is read as the direction and minor version of its first line
    and exactly its headers, in order, names as sent, values stripped. -/
theorem read_render (first : MsgLine) (hs : List (SentHdr × Bool)) (c : Bool) (body : Bytes)
    (isReq : Bool) (minor : Nat)
    (hfirst : LineOk first) (hfl : readFirstLine first.text = some (isReq, minor))
    (hok : ∀ h ∈ hs, h.1.Ok ∧ LineOk { text := h.1.line, crlf := h.2 }) :
    readPayload (renderLines (first :: hs.map fun h => { text := h.1.line, crlf := h.2 }) ++ blankLine c ++ body) =
      .ok isReq minor (hs.map fun h => { name := h.1.name, value := stripB h.1.value }) := by
  have hh := readHeaders_sent (hs.map (·.1)) (List.forall_mem_map.2 fun h hh => (hok h hh).1) []
  simp only [List.map_map, Function.comp_def, List.nil_append] at hh
  rw [readPayload, extractLines_render _ (List.forall_mem_cons.2 ⟨hfirst, List.forall_mem_map.2 fun h hh => (hok h hh).2⟩)
    (List.cons_ne_nil _ _)]
  simp only [List.map_cons, List.map_map, Function.comp_def, hfl, hh]

/-! non-vacuity: a request with CRLF and LF mixed -/
example : readPayload "GET / HTTP/1.1\r\nHost: example.org\nUser-Agent:  curl/8 \r\n\nbody".toList =
    .ok true 1 [{ name := "Host".toList, value := "example.org".toList }, { name := "User-Agent".toList, value := "curl/8".toList }] := by
  decide +kernel

end P0f
