import P0f.Model.ImpExtract
import P0f.Lemmas.OptEncode
import P0f.Lemmas.QSet
import P0f.Lemmas.RunFields
/-
  Decode of serialise: the output packet serialised the way Scapy serialises it (`OutPkt.toBytes`, checksums zero) and
  read back by the verified extraction (`decodeV4` / `decodeV6`, `pktSigOfPkt`) gives exactly the field-level
  signature `extractOut`, for every packet whose fields fit their header fields.
-/
namespace P0f

/-- the fields fit the header fields they are written into; with at most 60 bytes of IP header and 60 of TCP header the
    datagram's 16-bit length field holds any payload up to 65415 bytes, and 60000 is a round bound below that -/
structure OutPkt.Fits (o : OutPkt) : Prop where
  tos : o.tos < 256
  ipId : o.ipId < 65536
  ipFlags : o.ipFlags < 8
  ipFrag : o.ipFrag = 0
  ttl : 0 ≤ o.ttl ∧ o.ttl ≤ 255
  fl : o.fl < 1048576
  ipOpt : o.ipOptLen ≤ 40
  sport : o.sport < 65536
  dport : o.dport < 65536
  seq : o.seq < 4294967296
  ack : o.ack < 4294967296
  flags : o.flags < 512
  window : o.window < 65536
  urp : o.urp < 65536
  opts : (encodeOpts o.opts).length ≤ 40
  payload : o.payload.length ≤ 60000

/-- a 16-bit field read back at any offset (not used below: the headers are written out cell by cell, see `be16_arith`) -/
theorem u16_beBytes16 (v : Nat) (h : v < 65536) (pre rest : List Nat) :
    u16 (pre ++ beBytes16 v ++ rest) pre.length = v := by
  unfold u16 beBytes16
  simp [List.getD_eq_getElem?_getD]
  omega

/-! `be16_beBytes16` / `be32_beBytes32` on the digits, as rewrite rules for headers written out cell by cell -/
theorem be16_arith {v : Nat} (h : v < 65536) : v / 256 % 256 * 256 + v % 256 = v := be16_beBytes16 v h []
theorem be32_arith {v : Nat} (h : v < 4294967296) :
    ((v / 16777216 % 256 * 256 + v / 65536 % 256) * 256 + v / 256 % 256) * 256 + v % 256 = v := be32_beBytes32 v h []

theorem nibbles (v : Nat) {h : Nat} (hh : h < 16) : (v * 16 + h) / 16 = v ∧ (v * 16 + h) % 16 = h := by omega

/-- the header-length nibble (IHL, data offset) for `L` bytes of options, in 32-bit words -/
theorem hdrWords_arith {L : Nat} (h4 : L % 4 = 0) (h40 : L ≤ 40) : (5 + L / 4) % 16 * 4 = 20 + L := by omega

theorem be20_arith {v : Nat} (h : v < 1048576) : (v / 65536 % 16 * 256 + v / 256 % 256) * 256 + v % 256 = v := by
  rw [Nat.mod_eq_of_lt (Nat.div_lt_of_lt_mul h), show 65536 = 256 * 256 from rfl, ← Nat.div_div_eq_div_mul, Nat.div_add_mod',
    Nat.div_add_mod']

theorem getD_append_left {a : List Nat} {i : Nat} (h : i < a.length) (b : List Nat) : (a ++ b).getD i 0 = a.getD i 0 := by
  simp only [List.getD_eq_getElem?_getD, List.getElem?_append_left h]

theorem u16_append_left {a : List Nat} {i : Nat} (h : i + 1 < a.length) (b : List Nat) : u16 (a ++ b) i = u16 a i := by
  unfold u16; rw [getD_append_left (by omega), getD_append_left h]

theorem u32_append_left {a : List Nat} {i : Nat} (h : i + 3 < a.length) (b : List Nat) : u32 (a ++ b) i = u32 a i := by
  unfold u32
  rw [getD_append_left (by omega), getD_append_left (by omega), getD_append_left (by omega), getD_append_left h]

/-- **TCP segment = fixed header ++ options ++ payload**: when the data offset in the header covers exactly the options,
    `TCP.from_packet` reads its scalar fields from the header, parses exactly the options and keeps exactly the payload -/
theorem tcpLayer_append (hdr ob pay : List Nat) (hlen : hdr.length = 20) (hoff : hdr.getD 12 0 / 16 * 4 = 20 + ob.length) :
    tcpLayer (hdr ++ (ob ++ pay)) =
      { type := tcpType (tcpFlags9 hdr), sport := u16 hdr 0, dport := u16 hdr 2, window := u16 hdr 14, seq := u32 hdr 4,
        opts := parseOpts ob (tcpType (tcpFlags9 hdr) == F_SYN), payload := pay, hdrLen := 20 + ob.length,
        quirks := (tcpQ (tcpFlags9 hdr) (u32 hdr 4) (u32 hdr 8) (u16 hdr 18)).union
          (parseOpts ob (tcpType (tcpFlags9 hdr) == F_SYN)).quirks } := by
  have hopt : ((hdr ++ (ob ++ pay)).take (20 + ob.length)).drop 20 = ob := by
    rw [← hlen, ← List.append_assoc, List.take_left' (List.length_append ..), List.drop_left]
  have hpay : (hdr ++ (ob ++ pay)).drop (20 + ob.length) = pay := by
    rw [← List.append_assoc]; exact List.drop_left' (by rw [List.length_append, hlen])
  unfold tcpLayer tcpFlags9
  simp (disch := omega) only [getD_append_left, u16_append_left, u32_append_left, hoff, hopt, hpay]
  rfl

/-- the 20 fixed bytes of the TCP header Scapy builds, cell by cell -/
def OutPkt.tcpHdr (o : OutPkt) : List Nat :=
  [o.sport / 256 % 256, o.sport % 256, o.dport / 256 % 256, o.dport % 256,
   o.seq / 16777216 % 256, o.seq / 65536 % 256, o.seq / 256 % 256, o.seq % 256,
   o.ack / 16777216 % 256, o.ack / 65536 % 256, o.ack / 256 % 256, o.ack % 256,
   (5 + (encodeOpts o.opts).length / 4) % 16 * 16 + o.flags / 256 % 2, o.flags % 256,
   o.window / 256 % 256, o.window % 256, 0, 0, o.urp / 256 % 256, o.urp % 256]

theorem tcpBytes_eq (o : OutPkt) : o.tcpBytes = o.tcpHdr ++ (encodeOpts o.opts ++ o.payload) := by
  simp only [OutPkt.tcpBytes, OutPkt.tcpHdr, beBytes16, beBytes32, List.cons_append, List.nil_append]

theorem tcpHdr_dofs (o : OutPkt) (h : o.Fits) : o.tcpHdr.getD 12 0 / 16 * 4 = 20 + (encodeOpts o.opts).length := by
  simp only [OutPkt.tcpHdr, List.getD_cons_succ, List.getD_cons_zero]
  rw [(nibbles _ (Nat.lt_of_lt_of_le (Nat.mod_lt _ (by decide)) (by decide))).1, hdrWords_arith (encodeOpts_len4 o.opts) h.opts]

/-- the TCP segment: every field `TCP.from_packet` reads is the field that was written -/
theorem tcpLayer_tcpBytes (o : OutPkt) (h : o.Fits) :
    (tcpLayer o.tcpBytes).type = tcpType o.flags ∧
    (tcpLayer o.tcpBytes).window = o.window ∧
    (tcpLayer o.tcpBytes).opts = outOpts o ∧
    (tcpLayer o.tcpBytes).payload = o.payload ∧
    (tcpLayer o.tcpBytes).hdrLen = 20 + (encodeOpts o.opts).length ∧
    (tcpLayer o.tcpBytes).quirks = (outTcpQuirks o).union (outOpts o).quirks := by
  have hf := h.flags
  have hflags : ∀ d, (d % 16 * 16 + o.flags / 256 % 2) % 2 * 256 + o.flags % 256 = o.flags := fun d => by omega
  rw [tcpBytes_eq, tcpLayer_append _ _ _ rfl (tcpHdr_dofs o h)]
  simp only [tcpFlags9, u16, u32, OutPkt.tcpHdr, List.getD_cons_succ, List.getD_cons_zero, hflags, be16_arith h.window,
    be32_arith h.seq, be32_arith h.ack, be16_arith h.urp]
  exact ⟨trivial, trivial, rfl, trivial, trivial, rfl⟩

theorem tcpBytes_length (o : OutPkt) :
    o.tcpBytes.length = 20 + (encodeOpts o.opts).length + o.payload.length := by
  rw [tcpBytes_eq, List.length_append, List.length_append, ← Nat.add_assoc]
  rfl

/-- the segment is plausibly framed and fits a datagram: 60060 = 20 + 40 + 60000 (`OutPkt.Fits.opts`, `.payload`) -/
theorem tcpBytes_frame (o : OutPkt) (h : o.Fits) :
    20 ≤ o.tcpBytes.length ∧ 5 ≤ o.tcpBytes.getD 12 0 / 16 ∧ o.tcpBytes.getD 12 0 / 16 * 4 ≤ o.tcpBytes.length ∧
      o.tcpBytes.length ≤ 60060 := by
  have htl := tcpBytes_length o
  have hdofs := tcpHdr_dofs o h
  have hpl := h.payload
  have hlo := h.opts
  rw [tcpBytes_eq, getD_append_left (by decide : 12 < 20), ← tcpBytes_eq]
  omega

/-- the signature read from an IP layer with the right fields and the dissected segment is the field-level one -/
theorem pktSig_extractOut (o : OutPkt) (h : o.Fits) (ip : IpL) (hver : ip.version = o.ipVer) (httl : ip.ttl = o.ttl.toNat)
    (holen : ip.olen = if o.ipVer == 6 then 0 else (ipOptBytes o.ipOptLen).length)
    (hhl : ip.hdrLen = if o.ipVer == 6 then 40 else 20 + (ipOptBytes o.ipOptLen).length)
    (hq : ip.quirks = outIpQuirks o) :
    pktSigOfPkt { ip := ip, tcp := tcpLayer o.tcpBytes } 0 = extractOut o := by
  obtain ⟨_, tWin, tOpts, tPay, tHdrLen, tQuirks⟩ := tcpLayer_tcpBytes o h
  unfold pktSigOfPkt extractOut
  simp only [hver, httl, holen, hhl, hq, tWin, tOpts, tPay, tHdrLen, tQuirks, ite_self, Nat.add_assoc]
  split <;> rfl

/-- **IPv6 datagram = fixed header ++ segment**: well framed when the header says version 6, next header TCP and the
    segment's length, and the segment's data offset is plausible -/
theorem decodeV6_append (hdr t : List Nat) (hlen : hdr.length = 40) (hv : hdr.getD 0 0 / 16 = 6) (hnh : hdr.getD 6 0 = 6)
    (hpl : u16 hdr 4 = t.length) (ht : 20 ≤ t.length) (hd : 5 ≤ t.getD 12 0 / 16) (hd' : t.getD 12 0 / 16 * 4 ≤ t.length) :
    decodeV6 (hdr ++ t) = some { ip := ipv6Layer (hdr ++ t), tcp := tcpLayer t } := by
  have hseg : ((hdr ++ t).take (40 + t.length)).drop 40 = t := by
    rw [List.take_of_length_le (by rw [List.length_append, hlen]; exact Nat.le_refl _), List.drop_left' hlen]
  unfold decodeV6
  simp (disch := exact Nat.lt_of_lt_of_le (by decide) (Nat.le_of_eq hlen.symm)) only [getD_append_left, u16_append_left, hpl, hseg,
    List.length_append, hlen, hv, hnh]
  rw [if_neg (by omega), if_neg (by omega), if_neg (by omega)]

/-- the 40 bytes of the IPv6 header Scapy builds -/
def OutPkt.ip6Hdr (o : OutPkt) : List Nat :=
  [6 * 16 + o.tos / 16, (o.tos % 16) * 16 + o.fl / 65536 % 16, o.fl / 256 % 256, o.fl % 256,
    o.tcpBytes.length / 256 % 256, o.tcpBytes.length % 256, 6, o.ttl.toNat % 256] ++ (o.src ++ o.dst)

theorem toBytes_v6 (o : OutPkt) (hv : o.ipVer = 6) : o.toBytes = o.ip6Hdr ++ o.tcpBytes := by
  simp only [OutPkt.toBytes, OutPkt.ip6Hdr, hv, beq_self_eq_true, ↓reduceIte, beBytes16, List.cons_append, List.nil_append,
    List.append_assoc]

/-- what `IP._from_ipv6` reads from that header: its cells, by evaluation, and nibble arithmetic -/
theorem ipv6Layer_ip6Hdr (o : OutPkt) (htos : o.tos < 256) (hfl : o.fl < 1048576) (httl : 0 ≤ o.ttl ∧ o.ttl ≤ 255) (t : List Nat) :
    (ipv6Layer (o.ip6Hdr ++ t)).version = 6 ∧ (ipv6Layer (o.ip6Hdr ++ t)).ttl = o.ttl.toNat ∧
    (ipv6Layer (o.ip6Hdr ++ t)).quirks = ip6Q o.fl o.tos := by
  have h0 := nibbles 6 (h := o.tos / 16) (by omega)
  have h1 := nibbles (o.tos % 16) (Nat.mod_lt (o.fl / 65536) (by decide : 0 < 16))
  simp only [ipv6Layer, OutPkt.ip6Hdr, List.cons_append, List.getD_cons_succ, List.getD_cons_zero, h0, h1, be20_arith hfl,
    Nat.div_add_mod']
  exact ⟨trivial, Nat.mod_eq_of_lt (by omega), rfl⟩

/-- **IPv6, byte level**: the datagram built from the output fields is well framed, and reading it back gives
    exactly the field-level signature -/
theorem decodeV6_toBytes (o : OutPkt) (h : o.Fits) (hv : o.ipVer = 6) (hs : o.src.length = 16) (hd : o.dst.length = 16) :
    ∃ p, decodeV6 o.toBytes = some p ∧ pktSigOfPkt p 0 = extractOut o := by
  obtain ⟨hmin, hdofs, hdofs', hmax⟩ := tcpBytes_frame o h
  have hv6 : (o.ipVer == 6) = true := by rw [hv]; rfl
  have hpl : o.tcpBytes.length / 256 % 256 * 256 + o.tcpBytes.length % 256 = o.tcpBytes.length := be16_arith (by omega)
  obtain ⟨lVer, lTtl, lQuirks⟩ := ipv6Layer_ip6Hdr o h.tos h.fl h.ttl o.tcpBytes
  rw [toBytes_v6 o hv]
  refine ⟨_, decodeV6_append _ _ (by simp only [OutPkt.ip6Hdr, List.length_append, List.length_cons, List.length_nil, hs, hd])
    lVer rfl hpl hmin hdofs hdofs', pktSig_extractOut o h _ (by rw [lVer, hv]) lTtl (by rw [hv6]; rfl) (by rw [hv6]; rfl) ?_⟩
  rw [lQuirks, outIpQuirks, if_pos hv6]; rfl

/-- **IPv4 datagram = header with options ++ segment**: well framed when the header says version 4, its own length,
    protocol TCP, no fragmentation and the total length, and the segment's data offset is plausible -/
theorem decodeV4_append (hdr t : List Nat) (h20 : 20 ≤ hdr.length) (hv : hdr.getD 0 0 / 16 = 4)
    (hihl : hdr.getD 0 0 % 16 * 4 = hdr.length) (hp : hdr.getD 9 0 = 6) (hfrag : hdr.getD 6 0 % 32 * 256 + hdr.getD 7 0 = 0)
    (htot : u16 hdr 2 = hdr.length + t.length) (ht : 20 ≤ t.length) (hd : 5 ≤ t.getD 12 0 / 16)
    (hd' : t.getD 12 0 / 16 * 4 ≤ t.length) :
    decodeV4 (hdr ++ t) = some { ip := ipv4Layer (hdr ++ t), tcp := tcpLayer t } := by
  have hseg : ((hdr ++ t).take (hdr.length + t.length)).drop hdr.length = t := by
    rw [List.take_of_length_le (by rw [List.length_append]; exact Nat.le_refl _), List.drop_left]
  unfold decodeV4
  simp (disch := exact Nat.lt_of_lt_of_le (by decide) h20) only [getD_append_left, u16_append_left, htot, hihl, hseg,
    List.length_append, hv, hp, hfrag]
  clear hv hp hfrag htot hseg  -- `omega` is dear with these div / mod facts in the context
  rw [if_neg (by omega), if_neg (by omega), if_neg (by omega)]

/-- the IPv4 header Scapy builds: twelve cells, the addresses, the NOP options with their padding -/
def OutPkt.ip4Hdr (o : OutPkt) : List Nat :=
  [4 * 16 + (5 + (ipOptBytes o.ipOptLen).length / 4) % 16, o.tos,
    ((5 + (ipOptBytes o.ipOptLen).length / 4) * 4 + o.tcpBytes.length) / 256 % 256,
    ((5 + (ipOptBytes o.ipOptLen).length / 4) * 4 + o.tcpBytes.length) % 256,
    o.ipId / 256 % 256, o.ipId % 256, (o.ipFlags % 8) * 32 + o.ipFrag / 256 % 32, o.ipFrag % 256,
    o.ttl.toNat % 256, 6, 0, 0] ++ (o.src ++ (o.dst ++ ipOptBytes o.ipOptLen))

theorem toBytes_v4 (o : OutPkt) (hv : o.ipVer = 4) : o.toBytes = o.ip4Hdr ++ o.tcpBytes := by
  have hv6 : (o.ipVer == 6) = false := by rw [hv]; rfl
  simp only [OutPkt.toBytes, OutPkt.ip4Hdr, hv6, Bool.false_eq_true, ↓reduceIte, beBytes16, List.cons_append, List.nil_append,
    List.append_assoc]

/-- what `IP._from_ipv4` and the framing check read from that header -/
theorem ipv4Layer_ip4Hdr (o : OutPkt) (hio : o.ipOptLen ≤ 40) (hfl : o.ipFlags < 8) (hfrag : o.ipFrag = 0)
    (hid : o.ipId < 65536) (httl : 0 ≤ o.ttl ∧ o.ttl ≤ 255) (t : List Nat) :
    (ipv4Layer (o.ip4Hdr ++ t)).version = 4 ∧ (ipv4Layer (o.ip4Hdr ++ t)).ttl = o.ttl.toNat ∧
    (ipv4Layer (o.ip4Hdr ++ t)).olen = (ipOptBytes o.ipOptLen).length ∧
    (ipv4Layer (o.ip4Hdr ++ t)).hdrLen = 20 + (ipOptBytes o.ipOptLen).length ∧
    (ipv4Layer (o.ip4Hdr ++ t)).quirks = ip4Q o.tos (bit o.ipFlags 4) (bit o.ipFlags 2) o.ipId ∧
    o.ip4Hdr.getD 6 0 % 32 * 256 + o.ip4Hdr.getD 7 0 = 0 := by
  obtain ⟨h4, h40, _⟩ := ipOptBytes_len o.ipOptLen
  have h0 := nibbles 4 (Nat.mod_lt (5 + (ipOptBytes o.ipOptLen).length / 4) (by decide : 0 < 16))
  simp only [ipv4Layer, u16, OutPkt.ip4Hdr, List.cons_append, List.getD_cons_succ, List.getD_cons_zero, hfrag, h0,
    hdrWords_arith h4 (h40 hio), Nat.zero_div, Nat.zero_mod, Nat.add_zero, Nat.mod_eq_of_lt hfl,
    Nat.mul_div_cancel _ (by decide : 0 < 32), Nat.mul_mod_left, be16_arith hid, Nat.add_sub_cancel_left]
  exact ⟨trivial, Nat.mod_eq_of_lt (by omega), trivial, trivial, rfl, trivial⟩

/-- **IPv4, byte level**: the datagram built from the output fields is well framed, and reading it back gives
    exactly the field-level signature -/
theorem decodeV4_toBytes (o : OutPkt) (h : o.Fits) (hv : o.ipVer = 4) (hs : o.src.length = 4) (hd : o.dst.length = 4) :
    ∃ p, decodeV4 o.toBytes = some p ∧ pktSigOfPkt p 0 = extractOut o := by
  obtain ⟨hmin, hdofs, hdofs', hmax⟩ := tcpBytes_frame o h
  obtain ⟨hio4, hio40, _⟩ := ipOptBytes_len o.ipOptLen
  have hio40 := hio40 h.ipOpt
  have hv6 : (o.ipVer == 6) = false := by rw [hv]; rfl
  have hlen : o.ip4Hdr.length = 20 + (ipOptBytes o.ipOptLen).length := by
    simp only [OutPkt.ip4Hdr, List.length_append, List.length_cons, List.length_nil, hs, hd]; omega
  have hw : (5 + (ipOptBytes o.ipOptLen).length / 4) * 4 = 20 + (ipOptBytes o.ipOptLen).length := by omega
  have htot : u16 o.ip4Hdr 2 = o.ip4Hdr.length + o.tcpBytes.length := by
    rw [hlen, ← hw]
    exact be16_arith (by omega)
  obtain ⟨lVer, lTtl, lOlen, lHdrLen, lQuirks, lFrag⟩ := ipv4Layer_ip4Hdr o h.ipOpt h.ipFlags h.ipFrag h.ipId h.ttl o.tcpBytes
  rw [toBytes_v4 o hv]
  refine ⟨_, decodeV4_append _ _ (by rw [hlen]; exact Nat.le_add_right ..) lVer (by rw [hlen]; exact lHdrLen) rfl lFrag htot
      hmin hdofs hdofs',
    pktSig_extractOut o h _ (by rw [lVer, hv]) lTtl (by rw [hv6]; exact lOlen) (by rw [hv6]; exact lHdrLen) ?_⟩
  rw [lQuirks, outIpQuirks, if_neg (by rw [hv6]; exact Bool.false_ne_true)]; rfl

end P0f
