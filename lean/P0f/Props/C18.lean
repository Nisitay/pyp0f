import P0f.Lemmas.Dump
import P0f.Lemmas.QSet
/-
  C18 — printed option layouts and quirk lists parse back to the same signature fields.
-/
namespace P0f
open P0f.Py

theorem foldl_options_dump (pad : Nat) (hp : pad ≤ 255) (l : List Nat) (hk : ∀ k ∈ l, k ≤ 255)
    (acc : List Nat × Nat) :
    (l.map (dumpOption pad)).foldlM optionsStep acc
      = some (acc.1 ++ l, if 0 ∈ l then pad else acc.2) := by
  induction l generalizing acc with
  | nil => simp
  | cons k t ih =>
    have hk' : k ≤ 255 := hk k (by simp)
    simp only [List.map_cons, List.foldlM_cons, optionsStep, (dumpOption_table pad k).1 hk' hp,
      Option.bind_eq_bind, Option.bind_some]
    rw [ih (fun x hx => hk x (by simp [hx]))]
    by_cases h0 : k = 0
    · subst h0; simp
    · have : ¬ (0 = k) := fun h => h0 h.symm
      simp [h0, this]

/-- **C18, layouts**: for every layout over kinds 0..255 (unknown kinds included) and every EOL
    padding length 0..255, the text `TCPOptions.dump` prints is accepted by `_parse_options` and
    denotes exactly that layout and padding. -/
theorem dumpLayout_parse (l : List Nat) (pad : Nat) (hk : ∀ k ∈ l, k ≤ 255) (hp : pad ≤ 255) :
    parseOptionsField (dumpLayout l pad) = some (l, if 0 ∈ l then pad else 0) := by
  unfold parseOptionsField dumpLayout
  rw [commaField_names _ l fun k _ => (dumpOption_table pad k).2]
  simpa using foldl_options_dump pad hp l hk ([], 0)

theorem foldl_quirks_dump (ver : Option Nat) (L : List Quirk) (hv : ∀ q ∈ L, quirkInvalidFor ver q = false)
    (acc : QSet) :
    (L.map Quirk.str).foldlM (quirksStep ver) acc
      = some (L.foldl QSet.insert acc) := by
  induction L generalizing acc with
  | nil => simp
  | cons q t ih =>
    simp only [List.map_cons, List.foldlM_cons, quirksStep, (quirk_str_table q).1, hv q (by simp), Bool.false_eq_true,
      ↓reduceIte, Option.bind_eq_bind, Option.bind_some, List.foldl_cons]
    exact ih (fun x hx => hv x (by simp [hx])) _

/-- **C18, quirks**: for every one of the 2^17 quirk sets whose members are legal for the stated IP
    version, the text `dump_quirks` prints is accepted by `_parse_quirks` and denotes exactly that set. -/
theorem dumpQuirks_parse (qs : QSet) (ver : Option Nat)
    (hv : ∀ q, qs q = true → quirkInvalidFor ver q = false) :
    ∃ r, parseQuirksField (dumpQuirks qs) ver = some r ∧ ∀ q, r q = qs q := by
  have hmem : ∀ q, q ∈ qs.toList ↔ qs q = true := by
    intro q; simp [QSet.toList, Quirk.mem_all]
  unfold parseQuirksField dumpQuirks
  rw [commaField_names _ _ fun q _ => (quirk_str_table q).2, foldl_quirks_dump ver qs.toList (fun q hq => hv q ((hmem q).mp hq))]
  refine ⟨_, rfl, fun q => ?_⟩
  rw [QSet.foldl_insert_apply, QSet.empty, Bool.false_or, Bool.eq_iff_iff, List.contains_iff_mem, hmem]

example : parseOptionsField (dumpLayout [2, 4, 8, 1, 3, 77, 0] 3) = some ([2, 4, 8, 1, 3, 77, 0], 3) := by
  simpa using dumpLayout_parse [2, 4, 8, 1, 3, 77, 0] 3 (by decide) (by decide)
example : String.ofList (dumpLayout [2, 4, 8, 1, 3, 77, 0] 3) = "mss,sok,ts,nop,ws,?77,eol+3" := by decide +kernel
example : String.ofList (dumpQuirks (QSet.ofList [.bad, .df, .nzId])) = "df,id+,bad" := by decide +kernel

end P0f
