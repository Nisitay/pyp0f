import P0f.Props.C09Sig
import P0f.Props.C03
import P0f.Props.C01
/-
  C18 (last clause) — "a signature written from an observed packet matches that packet exactly":
  the signature `sigOfPktSig k` printed in p0f notation, parsed by `TCPSignature.parse` and compared with
  the packet by `tcp_signatures_match` gives `exact`.
-/
namespace P0f
open P0f.Py

/-- what extraction guarantees about a packet signature (byte-sized header fields, 16-bit window and
    MSS, option kinds and padding from the wire, quirks of the packet's own IP family) -/
structure PktSig.Wire (k : PktSig) : Prop where
  ver : k.ipVer = 4 ∨ k.ipVer = 6
  olen : 0 ≤ k.olen ∧ k.olen ≤ 255
  ttl : k.ttl ≤ 255
  win : k.win ≤ 65535
  mss : k.mss ≤ 65535
  ws : k.wscale ≤ 255
  kinds : ∀ x ∈ k.layout, x ≤ 255
  pad : k.eolPad ≤ 255 ∧ (0 ∉ k.layout → k.eolPad = 0)
  quirks : ∀ q, k.quirks q = true → quirkInvalidFor (some k.ipVer) q = false

theorem sigOfPktSig_wf (k : PktSig) (h : k.Wire) : (sigOfPktSig k).WF where
  ver := by rcases h.ver with e | e <;> simp [sigOfPktSig, e]
  ttl := by have := h.ttl; show 1 ≤ max k.ttl 1 ∧ max k.ttl 1 ≤ 255; omega
  olen := by have := h.olen; show k.olen.toNat ≤ 255; omega
  mss := fun m hm => Option.some.inj hm ▸ h.mss
  win := ⟨fun _ => h.win, nofun, nofun, nofun⟩
  scale := fun c hc => Option.some.inj hc ▸ h.ws
  kinds := h.kinds
  pad := h.pad
  quirks := h.quirks

/-- **C18, written signature matches**: for every packet signature extraction can produce and every
    TTL tolerance of at least 1, the text written from it is accepted by the signature parser and the
    parsed signature matches the packet exactly. -/
theorem printed_sig_matches (k : PktSig) (h : k.Wire) (d : Int) (hd : 1 ≤ d) :
    ∃ s, parseTcpSig (renderTcpSig (sigOfPktSig k)) = some s ∧ tcpMatchPkt s k d = some .exact := by
  refine ⟨sigOfPktSig k, parseTcpSig_render_eq _ (sigOfPktSig_wf k h), (exact_iff _ _ d).mpr ?_⟩
  have ho := h.olen
  -- every field of the written signature is the packet's own (the clauses of `fixedOk` in order); only a TTL of 0 is written as 1
  refine ⟨⟨rfl, rfl,                            -- layout, EOL padding
      Int.toNat_of_nonneg ho.1,                 -- options length
      fun _ e => (Option.some.inj e).symm,      -- IP version
      fun _ e => (Option.some.inj e).symm,      -- MSS
      fun _ e => (Option.some.inj e).symm,      -- window scale
      fun _ e => (Option.some.inj e).symm,      -- payload class
      rfl, nofun⟩,                              -- window (`.normal`), no bad-TTL mark
    fun q => Bool.and_true _, .inr ?_⟩
  show k.ttl ≤ max k.ttl 1 ∧ ((max k.ttl 1 : Nat) : Int) - k.ttl ≤ d
  omega

/-- the quirks the option walk can raise -/
def optQuirk (q : Quirk) : Bool := q == .exws || q == .zeroTs1 || q == .nzTs2 || q == .eolNz || q == .bad

/-- what the option walk guarantees of its result on a buffer of bytes; `n` bounds the EOL padding, which counts the bytes after
    the EOL and so is at most the length of the buffer -/
def OptsOk (n : Nat) (o : Opts) : Prop :=
  (∀ k ∈ o.layout, k ≤ 255) ∧ o.mss ≤ 65535 ∧ o.ws ≤ 255 ∧ o.eolPad ≤ n ∧ (0 ∉ o.layout → o.eolPad = 0) ∧
    (∀ q, o.quirks q = true → optQuirk q = true)

section
variable {n : Nat} {o : Opts} (h : OptsOk n o)
include h

theorem OptsOk.kinds : ∀ k ∈ o.layout, k ≤ 255 := h.1
theorem OptsOk.mss : o.mss ≤ 65535 := h.2.1
theorem OptsOk.ws : o.ws ≤ 255 := h.2.2.1
theorem OptsOk.pad : o.eolPad ≤ n ∧ (0 ∉ o.layout → o.eolPad = 0) := ⟨h.2.2.2.1, h.2.2.2.2.1⟩
theorem OptsOk.quirks : ∀ q, o.quirks q = true → optQuirk q = true := h.2.2.2.2.2

theorem OptsOk.push (k : Nat) (hk : k ≤ 255) : OptsOk n (o.pushKind k) :=
  ⟨List.forall_mem_append.mpr ⟨h.kinds, List.forall_mem_singleton.mpr hk⟩, h.mss, h.ws, h.pad.1,
    fun hn => h.pad.2 fun hm => hn (List.mem_append_left _ hm), h.quirks⟩

theorem OptsOk.quirk (q : Quirk) (hq : optQuirk q = true) : OptsOk n (o.addQuirk q) := by
  refine ⟨h.kinds, h.mss, h.ws, h.pad.1, h.pad.2, fun q' hq' => ?_⟩
  simp only [Opts.addQuirk, QSet.insert, Bool.or_eq_true, beq_iff_eq] at hq'
  rcases hq' with hq' | rfl
  · exact h.quirks q' hq'
  · exact hq

theorem OptsOk.quirkIf (c : Bool) (q : Quirk) (hq : optQuirk q = true) : OptsOk n (o.addQuirkIf c q) := by
  unfold Opts.addQuirkIf; cases c
  · exact h
  · exact h.quirk q hq

end

theorem OptsOk.value {n : Nat} {o : Opts} (h : OptsOk n o) (isSyn : Bool) (k : Nat) (body : List Nat) (hb : AllBytes body) :
    OptsOk n (applyValue isSyn k body o) := by
  unfold applyValue
  split
  · exact ⟨h.kinds, u16_le body hb 0, h.ws, h.pad.1, h.pad.2, h.quirks⟩
  · split
    · refine OptsOk.quirkIf ?_ _ _ (by decide)
      exact ⟨h.kinds, h.mss, Nat.le_of_lt_succ (getD_lt hb 0), h.pad.1, h.pad.2, h.quirks⟩
    · split
      · refine OptsOk.quirkIf (OptsOk.quirkIf ?_ _ _ (by decide)) _ _ (by decide)
        exact h
      · exact h

theorem parseOptsGo_ok (isSyn : Bool) (n : Nat) (l : List Nat) (o : Opts)
    (hl : AllBytes l) (hn : l.length ≤ n) (h : OptsOk n o) : OptsOk n (parseOptsGo isSyn l o) := by
  rw [parseOptsGo_eq_interp]
  induction l using tokenize_ind generalizing o with
  | nil e => rw [e]; exact h
  | eol rest e =>
    -- the padding is what is left of the buffer
    rw [e]
    refine OptsOk.quirkIf ?_ _ _ (by decide)
    exact ⟨List.forall_mem_append.mpr ⟨h.kinds, List.forall_mem_singleton.mpr (Nat.zero_le _)⟩, h.mss, h.ws,
      Nat.le_of_succ_le hn, fun h0 => absurd (List.mem_append_right _ (List.mem_singleton_self 0)) h0, h.quirks⟩
  | nop rest e ih => rw [e]; exact ih _ hl.tail (Nat.le_of_succ_le hn) (h.push 1 (by decide))
  | trunc kind e => rw [e]; exact (h.push kind hl.head).quirk _ (by decide)
  | overrun kind len rest e => rw [e]; exact (h.push kind hl.head).quirk _ (by decide)
  | opt kind len rest e ih =>
    -- a complete option: applied, or flagged `bad` and then either the walk stops or goes on
    have ih := fun o => ih o (hl.tail.tail.drop _) (by simp only [List.length_cons, List.length_drop] at hn ⊢; omega)
    have hp := h.push kind hl.head
    rw [e, interp]
    split
    · exact ih _ (hp.value isSyn kind _ (hl.tail.tail.take _))
    · split
      · exact hp.quirk _ (by decide)
      · exact ih _ (hp.quirk _ (by decide))

theorem tcpLayer_opts_ok (t : List Nat) (h : AllBytes t) : OptsOk 255 (tcpLayer t).opts := by
  have h12 := getD_lt h 12
  refine parseOptsGo_ok _ 255 _ _ ((h.take _).drop _) ?_ (by simp [OptsOk, Opts.init, QSet.empty])
  simp only [List.length_drop, List.length_take]; omega

/-- a quirk that is illegal for one of the IP versions never comes from the TCP layer: neither from its header nor from the
    option walk -/
theorem tcpLayer_quirks_family (t : List Nat) (h : AllBytes t) (q : Quirk)
    (hq : quirkInvalidFor (some 4) q = true ∨ quirkInvalidFor (some 6) q = true) : (tcpLayer t).quirks q = false := by
  have ho := (tcpLayer_opts_ok t h).quirks q
  show (tcpQ (tcpFlags9 t) (u32 t 4) (u32 t 8) (u16 t 18) q || (tcpLayer t).opts.quirks q) = false
  rw [tcpQ_apply]
  simp only [quirkInvalidFor, Bool.or_eq_true, beq_iff_eq] at hq
  rcases hq with rfl | (((rfl | rfl) | rfl) | rfl) <;> simpa [optQuirk] using ho

theorem wire_of_layers (ip : IpL) (t : List Nat) (s : Nat) (h : AllBytes t)
    (hv : ip.version = 4 ∨ ip.version = 6) (holen : ip.olen ≤ 255) (httl : ip.ttl ≤ 255)
    (hq : ∀ q, quirkInvalidFor (some ip.version) q = true → ip.quirks q = false) :
    (pktSigOfPkt { ip := ip, tcp := tcpLayer t } s).Wire := by
  have ho := tcpLayer_opts_ok t h
  refine ⟨hv, ?_, httl, u16_le t h 14, ho.mss, ho.ws, ho.kinds, ho.pad, fun q hqq => Bool.eq_false_iff.mpr fun hinv => ?_⟩
  · simp only [pktSigOfPkt]; omega
  · have : (ip.quirks q || (tcpLayer t).quirks q) = true := hqq
    rw [hq q hinv, tcpLayer_quirks_family t h q (hv.imp (fun e : _ = 4 => e ▸ hinv) (fun e : _ = 6 => e ▸ hinv))] at this
    cases this

/-- **C18, every parsed IPv4 packet**: the signature of any well-framed IPv4/TCP datagram is one the
    written-signature theorem applies to. -/
theorem decodeV4_wire (b : List Nat) (p : PktL) (s : Nat) (hb : AllBytes b) (h : decodeV4 b = some p) :
    (pktSigOfPkt p s).Wire := by
  simp only [decodeV4, Option.ite_none_left_eq_some, Option.some.injEq] at h
  obtain ⟨hg, _, _, rfl⟩ := h
  have h8 := getD_lt hb 8
  have hver : b.getD 0 0 / 16 = 4 := by omega
  refine wire_of_layers _ _ s ((hb.take _).drop _) (.inl hver) ?_ (Nat.le_of_lt_succ h8) ?_
  · show b.getD 0 0 % 16 * 4 - 20 ≤ 255; omega
  · -- `flow` is no IPv4 quirk
    intro q hq
    rw [show (ipv4Layer b).version = 4 from hver] at hq
    cases beq_iff_eq.mp hq
    exact ipv4_quirks b .flow

theorem decodeV6_wire (b : List Nat) (p : PktL) (s : Nat) (hb : AllBytes b) (h : decodeV6 b = some p) :
    (pktSigOfPkt p s).Wire := by
  simp only [decodeV6, Option.ite_none_left_eq_some, Option.some.injEq] at h
  obtain ⟨hg, _, _, rfl⟩ := h
  have h7 := getD_lt hb 7
  have hver : b.getD 0 0 / 16 = 6 := by omega
  refine wire_of_layers _ _ s ((hb.take _).drop _) (.inr hver) (Nat.zero_le _) (Nat.le_of_lt_succ h7) ?_
  -- `df`, `id+`, `id-`, `0+` are no IPv6 quirks
  intro q hq
  rw [show (ipv6Layer b).version = 6 from hver] at hq
  simp only [quirkInvalidFor, Bool.or_eq_true, beq_iff_eq] at hq
  rcases hq with ((rfl | rfl) | rfl) | rfl <;> exact ipv6_quirks b _

/-- **C18, end to end**: for every well-framed IPv4 or IPv6 TCP datagram (any bytes), the signature
    written from its extracted fields parses and matches the packet exactly. -/
theorem printed_sig_matches_wire (b : List Nat) (p : PktL) (s : Nat) (d : Int) (hd : 1 ≤ d) (hb : AllBytes b)
    (h : decodeV4 b = some p ∨ decodeV6 b = some p) :
    ∃ g, parseTcpSig (renderTcpSig (sigOfPktSig (pktSigOfPkt p s))) = some g ∧
      tcpMatchPkt g (pktSigOfPkt p s) d = some .exact :=
  printed_sig_matches _ (h.elim (decodeV4_wire b p s hb) (decodeV6_wire b p s hb)) d hd

end P0f
