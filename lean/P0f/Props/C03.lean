import P0f.Spec.Wire
import P0f.Lemmas.TcpOptions
import P0f.Lemmas.QSet
import P0f.Lemmas.Bits
import P0f.Lemmas.Bytes
/-
  C03 — the signature extracted from wire bytes is what the IP/TCP headers actually say.
-/
namespace P0f

/-- **Option area**: `TCPOptions.parse` is the per-token interpretation of the option-area grammar,
    for every byte string. -/
theorem parseOpts_eq_interp (buf : List Nat) (isSyn : Bool) :
    parseOpts buf isSyn = interp isSyn (tokenize buf) Opts.init := parseOptsGo_eq_interp _ _ _

/-- the tokens partition the option area in wire order (nothing skipped, nothing invented) -/
theorem tokenize_bytes (l : List Nat) : (tokenize l).flatMap Tok.bytes = l := by
  induction l using tokenize_ind with
  | nil e | eol rest e | trunc kind e | overrun kind len rest e => rw [e]; simp [Tok.bytes]
  | nop rest e ih => rw [e, List.flatMap_cons, ih]; rfl
  | opt kind len rest e ih => rw [e, List.flatMap_cons, ih]; simp [Tok.bytes]

/-- the layout is the list of kinds of the tokens read, in wire order (a prefix of all tokens) -/
theorem interp_layout_prefix (isSyn : Bool) (ts : List Tok) (o : Opts) :
    ∃ n, (interp isSyn ts o).layout = o.layout ++ (ts.take n).map Tok.kind := by
  fun_induction interp isSyn ts o
  -- the walk ends (no kind), stops at this token (its kind), or goes on (its kind, then those of a prefix of the rest)
  case case1 => exact ⟨0, by simp⟩  -- no token left
  -- eol, trunc, overrun, malformed option of a kind that stops the walk
  case case3 | case4 | case5 | case7 => exact ⟨1, by simp [Tok.kind]⟩
  -- nop, well-formed option, malformed option that is skipped
  case case2 ih | case6 ih | case8 ih => obtain ⟨n, hn⟩ := ih; exact ⟨n + 1, by simp [hn, Tok.kind]⟩

/-- "A malformed option … is never turned into an MSS, scale or timestamp value": a token changes
    a value only if it is a complete option of exactly the right kind and length, and then the
    value is the big-endian content of its body. -/
theorem value_only_from_wellformed (isSyn : Bool) (k len : Nat) (body : List Nat) (o : Opts) :
    let o' := if wellFormed k len then applyValue isSyn k body (o.pushKind k) else (o.pushKind k).addQuirk .bad
    (o'.mss ≠ o.mss → k = 2 ∧ len = 4 ∧ o'.mss = be16 body) ∧
    (o'.ws ≠ o.ws → k = 3 ∧ len = 3 ∧ o'.ws = body.getD 0 0) ∧
    (o'.ts ≠ o.ts → k = 8 ∧ len = 10 ∧ o'.ts = be32 body) := by
  intro o'
  by_cases hw : wellFormed k len = true
  · -- a well-formed option of a fixed-format kind has that format's length
    have hlen : ∀ sz, optSize k = some sz → len = 2 + sz := fun sz hs => by
      have h5 : k ≠ 5 := by rintro rfl; cases hs
      simpa [wellFormed, h5, hs] using hw
    obtain ⟨hm, hs, ht⟩ := applyValue_values isSyn k body (o.pushKind k)
    have e : o' = applyValue isSyn k body (o.pushKind k) := if_pos hw
    rw [e, hm, hs, ht]
    -- a field that differs from the old one is the field of kind `k`
    have key : ∀ {α : Type} (c sz : Nat) (new old : α), optSize c = some sz →
        (if k = c then new else old) ≠ old → k = c ∧ len = 2 + sz ∧ (if k = c then new else old) = new :=
      fun c sz new old hs h =>
        have hc : k = c := Classical.byContradiction fun hn => h (if_neg hn)
        ⟨hc, hlen sz (hc ▸ hs), if_pos hc⟩
    exact ⟨key 2 2 _ _ rfl, key 3 1 _ _ rfl, key 8 8 _ _ rfl⟩
  · have e : o' = (o.pushKind k).addQuirk .bad := if_neg hw
    rw [e]
    exact ⟨fun h => absurd rfl h, fun h => absurd rfl h, fun h => absurd rfl h⟩

/-- **IPv4 quirks** are exactly the documented ones: df, id+, id-, 0+, ecn -/
theorem ipv4_quirks (b : List Nat) (q : Quirk) : (ipv4Layer b).quirks q = specV4Quirk b q := by
  show ip4Q (b.getD 1 0) (b.getD 6 0 / 32 / 4 % 2 == 1) (b.getD 6 0 / 32 / 2 % 2 == 1) (u16 b 4) q = _
  rw [ip4Q_apply, Nat.div_div_eq_div_mul, Nat.div_div_eq_div_mul]
  rfl

/-- IPv4 fragment status: MF set or fragment offset non-zero -/
theorem ipv4_fragment (b : List Nat) : (ipv4Layer b).isFragment = (v4MF b || v4FragOff b != 0) := by
  unfold ipv4Layer v4MF v4FragOff
  simp

/-- **IPv6 quirks**: flow, ecn -/
theorem ipv6_quirks (b : List Nat) (q : Quirk) : (ipv6Layer b).quirks q = specV6Quirk b q :=
  ip6Q_apply (v6Flow b) (v6TrafficClass b) q

theorem bit_tcpFlags9 (t : List Nat) (m : Nat) (hm : m * 2 ∣ 256) : bit (tcpFlags9 t) m = bit (t.getD 13 0) m :=
  bit_mul_add _ 256 _ m hm

/-- the masked packet type is SYN exactly for an initial SYN, whatever PSH/URG/ECE/CWR/NS say -/
theorem tcpType_syn_iff (t : List Nat) (h : AllBytes t) :
    (tcpType (tcpFlags9 t) == F_SYN) = isInitialSyn t := by
  rw [tcpType_syn, bit_tcpFlags9 t F_SYN (by decide), bit_tcpFlags9 t F_ACK (by decide), bit_tcpFlags9 t F_FIN (by decide),
    bit_tcpFlags9 t F_RST (by decide)]
  simp only [isInitialSyn, tSYN, tACK, tFIN, tRST, bit, F_SYN, F_ACK, F_FIN, F_RST, Nat.div_one]

/-- **TCP quirks**: the header quirks are the documented conditions on the flag bits and fields;
    the rest comes from the option walk, run as "initial SYN" exactly when the masked type is SYN -/
theorem tcp_quirks (t : List Nat) (h : AllBytes t) (q : Quirk) :
    (tcpLayer t).quirks q =
      (specTcpQuirk t q ||
        (parseOpts ((t.take ((t.getD 12 0 / 16) * 4)).drop 20) (isInitialSyn t)).quirks q) := by
  have h13 := getD_lt h 13
  -- the ninth flag bit is the low bit of byte 12
  have hi : bit (tcpFlags9 t) 256 = tNS t := by unfold bit tcpFlags9 tNS; congr 1; omega
  show (tcpQ (tcpFlags9 t) (u32 t 4) (u32 t 8) (u16 t 18) q || _) = _
  rw [tcpQ_apply, ← tcpType_syn_iff t h, hi, bit_tcpFlags9 t 4 (by decide), bit_tcpFlags9 t 8 (by decide),
    bit_tcpFlags9 t 16 (by decide), bit_tcpFlags9 t 32 (by decide), bit_tcpFlags9 t 64 (by decide),
    bit_tcpFlags9 t 128 (by decide)]
  rfl

/-- the packet signature's quirk set is the union of the IP and TCP ones; its other fields are the
    layer fields -/
theorem sig_fields (p : PktL) (s : Nat) (q : Quirk) :
    (pktSigOfPkt p s).quirks q = (p.ip.quirks q || p.tcp.quirks q) ∧
    (pktSigOfPkt p s).ttl = p.ip.ttl ∧ (pktSigOfPkt p s).win = p.tcp.window ∧
    (pktSigOfPkt p s).layout = p.tcp.opts.layout ∧ (pktSigOfPkt p s).mss = p.tcp.opts.mss ∧
    (pktSigOfPkt p s).hasPayload = !p.tcp.payload.isEmpty := by
  simp [pktSigOfPkt, QSet.union]

/-! Non-vacuity: a concrete SYN+PSH with a peer timestamp keeps ts2+ (the F02 witness) -/
private def synPshTs : List Nat :=
  [0, 20, 0, 80, 0, 0, 0, 1, 0, 0, 0, 0, 128, 10, 32, 0, 0, 0, 0, 0,
   8, 10, 0, 0, 0, 5, 0, 0, 0, 7, 1, 1]
example : (tcpLayer synPshTs).quirks .nzTs2 = true ∧ (tcpLayer synPshTs).quirks .push = true := by decide +kernel
example : tokenize [2, 4, 5, 180, 1, 3, 3, 7, 0, 0] =
    [.opt 2 4 [5, 180], .nop, .opt 3 3 [7], .eol [0]] := by decide +kernel

end P0f
