import P0f.Props.C03
/-
  C04 — any packet or payload yields a result or PacketError, in bounded work.
  Model-side part: the option walk terminates (Lean accepts `parseOptsGo` only with the
  `len ≥ 2` advance, i.e. the definition itself is the termination proof), makes at most one
  iteration per byte and never produces more layout entries than there are option bytes.
  The HTTP part is in `P0f/Props/C04Http.lean`.
-/
namespace P0f

/-- the walk makes at most one loop iteration per byte: the number of tokens read is at most the
    number of bytes -/
theorem tokenize_length_le (l : List Nat) : (tokenize l).length ≤ l.length := by
  induction l using tokenize_ind with
  | nil e | eol rest e | trunc kind e | overrun kind len rest e => rw [e]; simp
  | nop rest e ih => rw [e]; exact Nat.succ_le_succ ih
  | opt kind len rest e ih => rw [e]; simp only [List.length_cons, List.length_drop] at ih ⊢; omega

/-- "the option layout never has more entries than there are option bytes": one entry per token read -/
theorem layout_le_bytes (buf : List Nat) (isSyn : Bool) :
    (parseOpts buf isSyn).layout.length ≤ buf.length := by
  obtain ⟨n, hn⟩ := interp_layout_prefix isSyn (tokenize buf) Opts.init
  rw [parseOpts_eq_interp, hn, List.length_append, List.length_map, List.length_take]
  exact Nat.le_trans (Nat.le_of_eq (Nat.zero_add _)) (Nat.le_trans (Nat.min_le_right _ _) (tokenize_length_le buf))

/-- the hostile inputs that used to loop forever now stop after one entry with `bad` -/
example : (parseOpts [2, 0, 0, 0] true).layout = [2] ∧ (parseOpts [2, 0, 0, 0] true).quirks .bad = true := by
  decide +kernel
example : (parseOpts [8, 0, 0, 0] false).layout = [8] := by decide +kernel

end P0f
