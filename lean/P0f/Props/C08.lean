import P0f.Model.Mtu
import P0f.Lemmas.Gate
/-
  C08 — MTU fingerprint and MTU impersonation agree on MSS + header size.
-/
namespace P0f

/-- the MTU gate, for any type value: on SYN and SYN+ACK `should_fingerprint` only asks for a non-fragment -/
theorem validMtu_eq_true (frag : Bool) (t mss : Nat) :
    validMtu frag t mss = true ↔ frag = false ∧ mss ≠ 0 ∧ (t = F_SYN ∨ t = F_SYN ||| F_ACK) := by
  unfold validMtu
  rw [Bool.and_eq_true, Bool.and_eq_true, Bool.or_eq_true, beq_iff_eq, beq_iff_eq, decide_eq_true_eq, gt_iff_lt,
    Nat.pos_iff_ne_zero, ← and_assoc]
  refine and_congr_left fun ht => and_congr_left' ?_
  rw [shouldFingerprint_of_type (or_assoc.mp (.inl ht)), Bool.not_eq_true']

/-- MTU = MSS + 40 (IPv4) or MSS + 60 (IPv6); PacketError exactly for packets without MSS,
    fragments and other flag combinations -/
theorem fpMtu_spec (db : List Nat) (p : PktL) :
    (fingerprintMtu db p = none ↔
        (p.ip.isFragment = true ∨ p.tcp.opts.mss = 0 ∨
          ¬ (p.tcp.type = F_SYN ∨ p.tcp.type = F_SYN ||| F_ACK))) ∧
    (∀ mtu m, fingerprintMtu db p = some (mtu, m) →
        mtu = p.tcp.opts.mss + (if p.ip.version = 4 then 40 else 60) ∧ m = findMtu db mtu) := by
  have hv : validMtu p.ip.isFragment p.tcp.type p.tcp.opts.mss = false ↔
      (p.ip.isFragment = true ∨ p.tcp.opts.mss = 0 ∨ ¬ (p.tcp.type = F_SYN ∨ p.tcp.type = F_SYN ||| F_ACK)) := by
    rw [← Bool.not_eq_true, validMtu_eq_true, Classical.not_and_iff_not_or_not, Classical.not_and_iff_not_or_not,
      Bool.not_eq_false, Classical.not_not]
  unfold fingerprintMtu
  cases hc : validMtu p.ip.isFragment p.tcp.type p.tcp.opts.mss
  · exact ⟨⟨fun _ => hv.1 hc, fun _ => rfl⟩, nofun⟩
  · refine ⟨⟨nofun, fun h => nomatch hc.symm.trans (hv.2 h)⟩, fun mtu m h => ?_⟩
    cases h; exact ⟨rfl, rfl⟩

/-- "returns the earliest database record with exactly that MTU, or no match" -/
theorem findMtu_first (db : List Nat) (mtu : Nat) :
    (∀ i, findMtu db mtu = some i → db[i]? = some mtu ∧ ∀ j < i, db[j]? ≠ some mtu) ∧
    (findMtu db mtu = none → mtu ∉ db) := by
  unfold findMtu
  constructor
  · intro i h
    rw [List.findIdx?_eq_some_iff_getElem] at h
    obtain ⟨hi, hp, hlt⟩ := h
    refine ⟨by simpa [List.getElem?_eq_getElem hi] using hp, ?_⟩
    intro j hj
    have := hlt j hj
    have hj' : j < db.length := by omega
    simpa [List.getElem?_eq_getElem hj'] using this
  · intro h
    rw [List.findIdx?_eq_none_iff] at h
    intro hm
    simpa using h mtu hm

theorem filter_replace_mss (opts : List SOpt) (v : SOpt) (hv : v.isMss = true) :
    (opts.map fun o => if o.isMss then v else o).filter (fun o => !o.isMss) = opts.filter (fun o => !o.isMss) := by
  induction opts with
  | nil => rfl
  | cons o t ih =>
    cases ho : o.isMss
    · simp only [List.map_cons, ho, Bool.false_eq_true, ↓reduceIte, List.filter_cons, Bool.not_false, ih]
    · simp only [List.map_cons, ho, ↓reduceIte, List.filter_cons, hv, Bool.not_true, Bool.false_eq_true, ih]

/-- impersonation leaves "all other options, their order" untouched -/
theorem impMtu_frame (opts : List SOpt) (mtu ver : Nat) :
    (impersonateMtu opts mtu ver).filter (fun o => !o.isMss) = opts.filter (fun o => !o.isMss) := by
  unfold impersonateMtu
  split
  · exact filter_replace_mss opts _ rfl
  · simp [SOpt.isMss]

/-- "replacing an existing MSS option in place": positions are kept, and every MSS entry of the
    result carries MTU − header size -/
theorem impMtu_in_place (opts : List SOpt) (mtu ver : Nat) (h : opts.any SOpt.isMss = true) :
    (impersonateMtu opts mtu ver).map SOpt.isMss = opts.map SOpt.isMss ∧
    ∀ o ∈ impersonateMtu opts mtu ver, o.isMss = true → o = .mss (mtu - mtuHdr ver) := by
  unfold impersonateMtu
  simp only [h, ↓reduceIte]
  constructor
  · simp only [List.map_map]
    apply List.map_congr_left
    intro o _
    cases ho : o.isMss
    · simp only [Function.comp, ho, Bool.false_eq_true, ↓reduceIte]
    · simp only [Function.comp, ho, ↓reduceIte]; rfl
  · intro o ho hm
    obtain ⟨o', _, rfl⟩ := List.mem_map.mp ho
    cases ho' : o'.isMss <;> simp_all

/-- without an MSS option in the base, one is put in front and the rest is kept as is -/
theorem impMtu_prepend (opts : List SOpt) (mtu ver : Nat) (h : opts.any SOpt.isMss = false) :
    impersonateMtu opts mtu ver = .mss (mtu - mtuHdr ver) :: opts := by
  unfold impersonateMtu; simp [h]

example : impersonateMtu [.nop, .mss 1400, .ws 7] 1500 4 = [.nop, .mss 1460, .ws 7] := by decide
example : impersonateMtu [.nop, .ws 7] 1500 6 = [.mss 1440, .nop, .ws 7] := by decide

end P0f
