import P0f.Lemmas.Str
import P0f.Model.Http
/-
  C07 — HTTP payload parsing recovers first line and headers faithfully.
  Line-level theorems (every header line / first line shape); Props/C07Render composes them over a whole
  rendered message.
-/
namespace P0f
open P0f.Py

/-- a header line `name ":" value` (name non-empty, without colon, not starting with SP / HT):
    name kept as sent, value stripped of surrounding whitespace, appended in wire order -/
theorem header_line (name value : Bytes) (rest : List Bytes) (acc : List Hdr)
    (hne : name ≠ []) (hcol : ':' ∉ name) (hsp : name.head? ≠ some ' ' ∧ name.head? ≠ some '\t') :
    readHeadersGo ((name ++ ':' :: value) :: rest) acc =
      readHeadersGo rest (acc ++ [{ name := name, value := stripB value }]) := by
  cases name with
  | nil => exact absurd rfl hne
  | cons c t =>
    have hc1 : c ≠ ' ' := fun e => hsp.1 (by simp [e])
    have hc2 : c ≠ '\t' := fun e => hsp.2 (by simp [e])
    have hp := partition_append value hcol
    simp only [List.cons_append] at hp
    simp [readHeadersGo, hc1, hc2, hp]

/-- a folded continuation line (starting with SP or HT) is appended to the previous value as
    CRLF SP + the stripped text -/
theorem continuation_line (c : Char) (t : Bytes) (rest : List Bytes) (acc : List Hdr) (h : Hdr)
    (hc : c = ' ' ∨ c = '\t') :
    readHeadersGo ((c :: t) :: rest) (acc ++ [h]) =
      readHeadersGo rest (acc ++ [{ name := h.name, value := h.value ++ ['\r', '\n', ' '] ++ stripB (c :: t) }]) := by
  have : (c == ' ' || c == '\t') = true := by rcases hc with rfl | rfl <;> rfl
  simp [readHeadersGo, this]

theorem continuation_first_rejected (c : Char) (t : Bytes) (rest : List Bytes) (hc : c = ' ' ∨ c = '\t') :
    readHeadersGo ((c :: t) :: rest) [] = .error .packetError := by
  have : (c == ' ' || c == '\t') = true := by rcases hc with rfl | rfl <;> rfl
  simp [readHeadersGo, this]

/-- "a header line without a colon … is rejected with PacketError" -/
theorem no_colon_rejected (line : Bytes) (rest : List Bytes) (acc : List Hdr)
    (hne : line ≠ []) (hsp : line.head? ≠ some ' ' ∧ line.head? ≠ some '\t') (hcol : ':' ∉ line) :
    readHeadersGo (line :: rest) acc = .error .packetError := by
  cases line with
  | nil => exact absurd rfl hne
  | cons c t =>
    have hc1 : c ≠ ' ' := fun e => hsp.1 (by simp [e])
    have hc2 : c ≠ '\t' := fun e => hsp.2 (by simp [e])
    simp [readHeadersGo, hc1, hc2, partition_of_not_mem hcol]

/-- "… or with an empty name is rejected with PacketError" -/
theorem empty_name_rejected (value : Bytes) (rest : List Bytes) (acc : List Hdr) :
    readHeadersGo ((':' :: value) :: rest) acc = .error .packetError := by
  simp [readHeadersGo, partition]

/-- a first line whose first token is `GET` or `HEAD` is a request; its version is the third
    whitespace-separated token -/
theorem first_line_request (line m t v : Bytes) (h : splitWs 2 line = [m, t, v])
    (hm : m = "GET".toList ∨ m = "HEAD".toList) :
    readFirstLine line = (minorVersion v).map (true, ·) := by
  rw [readFirstLine, h]
  exact if_pos (Bool.or_eq_true_iff.2 (hm.imp beq_iff_eq.2 beq_iff_eq.2))

/-- any other first token must itself be the version (a status line): so another method is rejected -/
theorem first_line_other (line p0 : Bytes) (h : (splitWs 2 line)[0]? = some p0)
    (hm : p0 ≠ "GET".toList ∧ p0 ≠ "HEAD".toList) :
    readFirstLine line = (minorVersion p0).map (false, ·) := by
  unfold readFirstLine
  have h1 : (p0 == "GET".toList || p0 == "HEAD".toList) = false := by
    simp only [Bool.or_eq_false_iff, beq_eq_false_iff_ne]
    exact hm
  simp only [h, h1, Bool.false_eq_true, ↓reduceIte]

/-- a first line with fewer tokens than needed is rejected -/
theorem first_line_short (line : Bytes) (h : splitWs 2 line = []) : readFirstLine line = none := by
  unfold readFirstLine; simp [h]

/-- the version token is accepted exactly when it is `HTTP/1.` followed by one ASCII digit, which is
    the minor version: any other protocol version is rejected -/
theorem minorVersion_iff (v : Bytes) (n : Nat) :
    minorVersion v = some n ↔ ∃ d, v = "HTTP/1.".toList ++ [d] ∧ isAsciiDigit d = true ∧ n = d.toNat - '0'.toNat := by
  unfold minorVersion
  constructor
  · intro h
    split at h
    · rename_i d
      by_cases hd : isAsciiDigit d = true
      · simp only [hd, ↓reduceIte, Option.some.injEq] at h
        exact ⟨d, rfl, hd, h.symm⟩
      · simp [hd] at h
    · simp at h
  · rintro ⟨d, rfl, hd, rfl⟩
    simp [hd]

example : readFirstLine "GET /index.html HTTP/1.1".toList = some (true, 1) := by decide +kernel
example : readFirstLine "HEAD  /  HTTP/1.0".toList = some (true, 0) := by decide +kernel
example : readFirstLine "HTTP/1.1 200 OK".toList = some (false, 1) := by decide +kernel
example : readFirstLine "POST / HTTP/1.1".toList = none := by decide +kernel
example : readFirstLine "GET / HTTP/2.0".toList = none := by decide +kernel
example : readFirstLine "GET /".toList = none := by decide +kernel
example : readPayload "GET / HTTP/1.1\r\nHost: x".toList = .packetError := by decide +kernel   -- no blank line

end P0f
