import P0f.Spec.WMult
import P0f.Props.C01
/-
  C17 — window size is classified as MSS or MTU multiple by the documented divisor order.
-/
namespace P0f

/-- the code's divisor list is the documented one (1500-40 = 1460, 1500-40-12 = 1448,
    1500-60 = 1440, 1500-60-12 = 1428, MIN_TCP4 = 40, MIN_TCP6 = 60) -/
theorem divisors_documented (p : WIn) : divisors p = specDivisors p := by
  unfold divisors specDivisors MIN_TCP4 MIN_TCP6
  rfl

theorem divides_iff (win : Nat) (x : Int × Bool) : divides win x = true ↔ Divides win x.1 := by
  unfold divides Divides
  simp [Int.dvd_iff_emod_eq_zero]

theorem not_divides_iff (win : Nat) (x : Int × Bool) : (!divides win x) = true ↔ ¬ Divides win x.1 := by
  rw [Bool.not_eq_true', ← Bool.not_eq_true, divides_iff]

/-- the property's two cases are the two outcomes of the code's search through the divisor list -/
theorem firstDivisor_iff (p : WIn) (d : Int) (m : Bool) :
    FirstDivisor p d m ↔ (specDivisors p).find? (divides p.win) = some (d, m) := by
  unfold FirstDivisor
  simp only [List.find?_eq_some_iff_append, not_divides_iff, divides_iff]
  exact ⟨fun ⟨as, bs, hl, hd, hb⟩ => ⟨hd, as, bs, hl, hb⟩, fun ⟨hd, as, bs, hl, hb⟩ => ⟨as, bs, hl, hd, hb⟩⟩

theorem noDivisor_iff (p : WIn) : NoDivisor p ↔ (specDivisors p).find? (divides p.win) = none := by
  unfold NoDivisor
  simp only [List.find?_eq_none, Bool.not_eq_true, ← Bool.not_eq_true', not_divides_iff]

/-- **C17, first half**: with a non-zero window and MSS ≥ 100 the multiplier is `window / d`
    (an exact quotient) for the first documented divisor `d` that divides the window, classified
    MSS / MTU by that divisor's group. -/
theorem windowMult_first (p : WIn) (d : Int) (m : Bool) (hb : HasBase p) (h : FirstDivisor p d m) :
    windowMult p = ((p.win : Int) / d, m) ∧ ((p.win : Int) / d) * d = p.win := by
  have hb' : ¬ (p.win = 0 ∨ p.mss < 100) := by unfold HasBase at hb; omega
  unfold windowMult
  rw [if_neg hb', divisors_documented, (firstDivisor_iff p d m).mp h]
  obtain ⟨_, _, _, hd, _⟩ := h
  exact ⟨rfl, Int.ediv_mul_cancel hd.2⟩

/-- a window that is a multiple of an MSS of at least 100 gets that multiplier, read as MSS multiple -/
theorem windowMult_of_mss (w : WIn) (n : Nat) (hm : 100 ≤ w.mss) (hn : 1 ≤ n) (hw : w.win = w.mss * n) :
    windowMult w = ((n : Int), false) := by
  have hm0 : w.mss ≠ 0 := by omega
  -- the MSS itself is the first documented divisor
  rw [(windowMult_first w w.mss false ⟨hw ▸ Nat.mul_ne_zero hm0 (by omega), hm⟩
      ⟨[], _, rfl, ⟨Int.natCast_ne_zero.mpr hm0, n, by rw [hw, Int.natCast_mul]⟩, nofun⟩).1,
    hw, Int.natCast_mul, Int.mul_ediv_cancel_left _ (Int.natCast_ne_zero.mpr hm0)]

/-- **C17, second half**: "Otherwise (zero window, MSS < 100, no divisor) there is no multiplier". -/
theorem windowMult_none (p : WIn) (h : ¬ HasBase p ∨ NoDivisor p) : windowMult p = (WILDCARD, false) := by
  unfold windowMult
  by_cases hb : p.win = 0 ∨ p.mss < 100
  · rw [if_pos hb]
  · have hn : NoDivisor p := h.resolve_left (by unfold HasBase; omega)
    rw [if_neg hb, divisors_documented, (noDivisor_iff p).mp hn]

/-- the two cases are exhaustive: there is a first dividing divisor or there is none -/
theorem first_or_none (p : WIn) : (∃ d m, FirstDivisor p d m) ∨ NoDivisor p := by
  cases h : List.find? (divides p.win) (specDivisors p) with
  | none => exact Or.inr ((noDivisor_iff p).mpr h)
  | some x => exact Or.inl ⟨x.1, x.2, (firstDivisor_iff p x.1 x.2).mpr h⟩

/-- "the first divisor d that divides the window, trying in order": the documented order decides, a divisor listed later
    does not change the answer whether or not it divides the window too -/
theorem earlier_divisor_wins (p : WIn) (d d' : Int) (m m' : Bool) (before mid after : List (Int × Bool))
    (hb : HasBase p) (hl : specDivisors p = before ++ (d, m) :: mid ++ (d', m') :: after)
    (hd : Divides p.win d) (hbefore : ∀ x ∈ before, ¬ Divides p.win x.1) :
    windowMult p = ((p.win : Int) / d, m) := by
  refine (windowMult_first p d m hb ⟨before, mid ++ (d', m') :: after, ?_, hd, hbefore⟩).1
  rw [hl]; simp

/-- without a multiplier neither `mss*N` nor `mtu*N` signatures can match -/
theorem no_mult_no_match (s : Sig) (k : PktSig) (dist : Int)
    (hw : s.wtype = .mss ∨ s.wtype = .mtu)
    (h : ¬ HasBase k.wIn ∨ NoDivisor k.wIn) : tcpMatchPkt s k dist = none := by
  have hm : k.toPSig.multVal = -1 := congrArg Prod.fst (windowMult_none k.wIn h)
  -- a match needs `windowFits`, which for `mss*` / `mtu*` says `multVal = wsize`, a natural number
  refine Option.eq_none_iff_forall_ne_some.mpr fun m hmatch => ?_
  have hfit := (match_only_if s k.toPSig dist m hmatch).1.window
  unfold windowFits at hfit
  rcases hw with hw | hw
  all_goals
    simp only [hw] at hfit
    omega

/-- the peer MSS is only ever consulted through `synMss`, which `from_packet` zeroes unless the
    packet is a SYN+ACK: with `synMss = 0` the peer divisors are absent -/
theorem no_peer_without_synmss (p : WIn) (h : p.synMss = 0) :
    specDivisors p = specDivisors { p with synMss := 0 } ∧
    ∀ x ∈ specDivisors p, x.1 = p.mss ∨ x.1 = (p.mss : Int) - 12 ∨ x.1 = 1460 ∨ x.1 = 1448 ∨ x.1 = 1440
      ∨ x.1 = 1428 ∨ x.1 = (p.mss : Int) + 40 ∨ x.1 = (p.mss : Int) + p.hdrLen ∨ x.1 = (p.mss : Int) + 60 ∨ x.1 = 1500 := by
  refine ⟨by unfold specDivisors; rw [h], fun x hx => ?_⟩
  unfold specDivisors at hx
  simp only [h, ne_eq, not_true_eq_false, if_false, List.append_nil, List.mem_append, List.mem_cons, List.not_mem_nil,
    or_false, List.mem_ite_nil_right] at hx
  rcases hx with ((((((rfl | ⟨_, rfl⟩) | rfl | rfl) | ⟨_, rfl | rfl⟩) | rfl | rfl) | ⟨_, rfl⟩) | rfl)
  all_goals simp only [true_or, or_true]

private def w1 : WIn := { win := 5840, mss := 1460, ts := 0, ipVer := 4, hdrLen := 60, synMss := 0 }
example : HasBase w1 := by simp [HasBase, w1]
example : windowMult w1 = (4, false) := by decide +kernel
example : windowMult { w1 with win := 6000 } = (4, true) := by decide +kernel   -- 1500 * 4 (MSS+40)
example : windowMult { w1 with win := 6001 } = (-1, false) := by decide +kernel
example : windowMult { w1 with win := 3000, mss := 1400, synMss := 1000 } = (2, true) := by decide +kernel  -- 1500 before the peer MSS
example : windowMult { w1 with mss := 99 } = (-1, false) := by decide +kernel

end P0f
