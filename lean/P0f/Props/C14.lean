import P0f.Lemmas.ImpFlags
import P0f.Lemmas.RunFields
import P0f.Lemmas.ImpOption
import P0f.Lemmas.AlignOptions
/-
  C14 — impersonation keeps the connection identity and every admissible hint.

  All theorems are about `impTcp`, the model of `impersonate_tcp` (P0f/Model/Impersonate.lean), for
  every signature, base packet, parameters and every outcome of the random draws (`Choices`).
  "Admissible" is defined by what the matcher needs (`MssAdmissible`, `WsAdmissible`), not by the
  code's range tests; the `…_iff` lemmas prove the two coincide.
-/
namespace P0f

/-- **C14, identity**: source and destination addresses and ports, and the IP version, are the base's -/
theorem imp_keeps_identity (s : Sig) (b : Base) (hops : Int) (mtu : Nat) (up : Option Int) (c : Choices) (o : OutPkt)
    (h : impTcp s b hops mtu up c = .ok o) :
    o.ipVer = b.ipVer ∧ o.src = b.src ∧ o.dst = b.dst ∧ o.sport = b.sport ∧ o.dport = b.dport :=
  have hf := impTcp_fields h
  ⟨hf.ipVer, hf.src, hf.dst, hf.sport, hf.dport⟩

/-- **C14, SYN / SYN+ACK nature**: the SYN bit is always the base's; the ACK bit is the base's unless the
    signature dictates it with `ack+` / `ack-` (then it is clear / set accordingly) -/
theorem imp_keeps_syn_nature (s : Sig) (b : Base) (hops : Int) (mtu : Nat) (up : Option Int) (c : Choices) (o : OutPkt)
    (hb : b.flags < 512) (h : impTcp s b hops mtu up c = .ok o) :
    bit o.flags F_SYN = bit b.flags F_SYN ∧
    (s.quirks .nzAck = false → s.quirks .zeroAck = false → bit o.flags F_ACK = bit b.flags F_ACK) := by
  rw [(impTcp_fields h).flags, impFlags]
  refine ⟨?_, fun h1 h2 => ?_⟩
  · rw [F_SYN, bit_two_pow _ 1, bit_two_pow _ 1, testBit_impFlagsB]; rfl
  · rw [F_ACK, bit_two_pow _ 4, bit_two_pow _ 4, testBit_impFlagsB, h1, h2]; rfl

/-- **C14, sequence number**: non-zero unless `seq-` is requested, and the base's own whenever that is non-zero -/
theorem imp_seq_nonzero (s : Sig) (b : Base) (hops : Int) (mtu : Nat) (up : Option Int) (c : Choices) (o : OutPkt)
    (h : impTcp s b hops mtu up c = .ok o) (hq : s.quirks .zeroSeq = false) (hc : choicesOk s b up c = true) :
    o.seq ≠ 0 ∧ (b.seq ≠ 0 → o.seq = b.seq) := by
  have hf := impTcp_fields h
  refine ⟨beq_eq_false_iff_ne.mp ((hf.seq_spec (choicesOk_parts hc)).1.trans hq), fun hb => ?_⟩
  rw [hf.seq, impSeq, hq, if_neg Bool.false_ne_true, if_neg (mt beq_iff_eq.mp hb)]

/-- using `h` as the MSS cannot prevent the match: it fits the 16-bit option, and with an `mss*N`
    window p0f must be able to find the multiplier (MSS ≥ 100) and the window `h*N` must fit 16 bits -/
def MssAdmissible (s : Sig) (h : Int) : Prop :=
  0 ≤ h ∧ h ≤ 65535 ∧ (s.wtype = .mss → 100 ≤ h ∧ h * s.wsize ≤ 65535)

theorem mssBounds_mem_iff (s : Sig) (h : Int) (hw : s.wtype = .mss → 0 < s.wsize) :
    (mssBounds s).1 ≤ h ∧ h ≤ (mssBounds s).2 ↔ MssAdmissible s h := by
  unfold MssAdmissible mssBounds
  by_cases hm : s.wtype = .mss
  · have hpos : (0 : Int) < s.wsize := by exact_mod_cast hw hm
    simp only [hm, beq_self_eq_true, ↓reduceIte, Int.le_ediv_iff_mul_le hpos, forall_const]
    have : 100 ≤ h → h ≤ h * s.wsize := fun _ => by
      have : h * 1 ≤ h * s.wsize := Int.mul_le_mul_of_nonneg_left (by omega) (by omega)
      simpa using this
    omega
  · simp [hm]

theorem mss_inRange_iff (s : Sig) (h : Int) (hw : s.wtype = .mss → 0 < s.wsize) :
    inRange (mssBounds s).1 (mssBounds s).2 (some h) = some h.toNat ↔ MssAdmissible s h :=
  inRange_some_toNat_iff.trans (mssBounds_mem_iff s h hw)

/-- using `h` as the window scale cannot prevent the match: it is a byte, and it exceeds 14 exactly when
    the signature asks for `exws` -/
def WsAdmissible (s : Sig) (h : Int) : Prop := 0 ≤ h ∧ h ≤ 255 ∧ (s.quirks .exws = true ↔ 14 < h)

theorem wsBounds_mem_iff (s : Sig) (h : Int) : (wsBounds s).1 ≤ h ∧ h ≤ (wsBounds s).2 ↔ WsAdmissible s h := by
  unfold WsAdmissible wsBounds
  cases s.quirks .exws <;> simp only [Bool.false_eq_true, ↓reduceIte, false_iff, true_iff, Int.not_lt] <;> omega

theorem ws_inRange_iff (s : Sig) (h : Int) :
    (if s.quirks .exws then inRange 15 255 (some h) else inRange 0 14 (some h)) = some h.toNat ↔ WsAdmissible s h := by
  rw [← wsBounds_mem_iff, ← inRange_some_toNat_iff, wsBounds]
  cases s.quirks .exws <;> rfl

theorem mssOf_admissible (s : Sig) (b : Base) (up : Option Int) (c : Nat × Nat) (hw : s.wtype = .mss → 0 < s.wsize)
    (hfix : ∀ m, s.mss = some m → MssAdmissible s m) (hok : optChoiceOk s b up 2 c = true) : MssAdmissible s (mssOf s b c) :=
  (mssBounds_mem_iff s _ hw).mp (mssOf_mem s b up c (fun m hm => (mssBounds_mem_iff s m hw).mpr (hfix m hm)) hok)

theorem wsOf_admissible (s : Sig) (b : Base) (up : Option Int) (c : Nat × Nat)
    (hfix : ∀ w, s.scale = some w → WsAdmissible s w) (hok : optChoiceOk s b up 3 c = true) : WsAdmissible s (wsOf s b c) :=
  (wsBounds_mem_iff s _).mp (wsOf_mem s b up c (fun w hw => (wsBounds_mem_iff s w).mpr (hfix w hw)) hok)

/-- **MSS**: a value the signature fixes always wins; otherwise an admissible hint is used as it is; otherwise a
    drawn value is used, and that value is itself admissible -/
theorem impOption_mss (s : Sig) (b : Base) (up : Option Int) (c : Nat × Nat)
    (hw : s.wtype = .mss → 0 < s.wsize) :
    (∀ m, s.mss = some m → impOption s b up 2 c = ([.mss m], false)) ∧
    (∀ h, s.mss = none → b.mssHint = some h → MssAdmissible s h → impOption s b up 2 c = ([.mss h.toNat], false)) ∧
    (s.mss = none → (∀ h, b.mssHint = some h → ¬ MssAdmissible s h) →
        impOption s b up 2 c = ([.mss c.1], false) ∧ (optChoiceOk s b up 2 c = true → MssAdmissible s c.1)) := by
  rw [impOption_mss_eq]
  refine ⟨fun m hm => ?_, fun h hm hh hadm => ?_, fun hm hbad => ?_⟩
  · rw [mssOf, hm]; rfl
  · rw [mssOf, hm, hh, getD_inRange_hint ((mssBounds_mem_iff s h hw).mpr hadm), Option.getD_none]
  · have hv : mssOf s b c = c.1 := by
      rw [mssOf, hm, getD_inRange_drawn fun x hx hr => hbad x hx ((mssBounds_mem_iff s x hw).mp hr), Option.getD_none]
    rw [hv]
    exact ⟨rfl, fun hok => hv ▸ mssOf_admissible s b up c hw (fun _ h => nomatch hm.symm.trans h) hok⟩

/-- **window scale**: fixed value wins; admissible hint kept; otherwise a drawn, admissible value -/
theorem impOption_ws (s : Sig) (b : Base) (up : Option Int) (c : Nat × Nat) :
    (∀ w, s.scale = some w → impOption s b up 3 c = ([.ws w], false)) ∧
    (∀ h, s.scale = none → b.wsHint = some h → WsAdmissible s h → impOption s b up 3 c = ([.ws h.toNat], false)) ∧
    (s.scale = none → (∀ h, b.wsHint = some h → ¬ WsAdmissible s h) →
        impOption s b up 3 c = ([.ws c.1], false) ∧ (optChoiceOk s b up 3 c = true → WsAdmissible s c.1)) := by
  rw [impOption_ws_eq]
  refine ⟨fun w hw => ?_, fun h hs hh hadm => ?_, fun hs hbad => ?_⟩
  · rw [wsOf, hw]; rfl
  · rw [wsOf_eq, hs, hh, getD_inRange_hint ((wsBounds_mem_iff s h).mpr hadm), Option.getD_none]
  · have hv : wsOf s b c = c.1 := by
      rw [wsOf_eq, hs, getD_inRange_drawn fun x hx hr => hbad x hx ((wsBounds_mem_iff s x).mp hr), Option.getD_none]
    rw [hv]
    exact ⟨rfl, fun hok => hv ▸ wsOf_admissible s b up c (fun _ h => nomatch hs.symm.trans h) hok⟩

/-- **own timestamp**: zero exactly when `ts1-` is asked for; otherwise the `uptime` argument if usable, else a
    non-zero 32-bit hint as it is, else a drawn non-zero value -/
theorem impOption_ts1 (s : Sig) (b : Base) (up : Option Int) (c : Nat × Nat) :
    ∃ t1 t2, impOption s b up 8 c = ([.ts t1 t2], false) ∧
      (s.quirks .zeroTs1 = true → t1 = 0) ∧
      (s.quirks .zeroTs1 = false → inRange 1 4294967295 up = none →
        (∀ h, b.ts1Hint = some h → 1 ≤ h → h ≤ 4294967295 → t1 = h.toNat) ∧
        (optChoiceOk s b up 8 c = true → t1 ≠ 0)) := by
  refine ⟨_, _, impOption_ts_eq s b up c, fun hz => by simp [ts1Of, hz], fun hz hup => ⟨fun h hh h1 h2 => ?_, fun hok => ?_⟩⟩
  · simp [ts1Of, hz, hup, hh, getD_inRange_hint (And.intro h1 h2)]
  · have := (ts1Of_spec s b up c hok).2
    rw [hz] at this
    simpa using this

/-- **peer timestamp**: on a (final) SYN it is non-zero exactly when `ts2+` is asked for (a non-zero hint is kept);
    on a SYN+ACK any 32-bit hint is kept -/
theorem impOption_ts2 (s : Sig) (b : Base) (up : Option Int) (c : Nat × Nat) :
    ∃ t1 t2, impOption s b up 8 c = ([.ts t1 t2], false) ∧
      (impTcpType s b = F_SYN → s.quirks .nzTs2 = false → t2 = 0) ∧
      (impTcpType s b = F_SYN → s.quirks .nzTs2 = true →
        (∀ h, b.ts2Hint = some h → 1 ≤ h → h ≤ 4294967295 → t2 = h.toNat) ∧
        (optChoiceOk s b up 8 c = true → t2 ≠ 0)) ∧
      (impTcpType s b ≠ F_SYN → ∀ h, b.ts2Hint = some h → 0 ≤ h → h ≤ 4294967295 → t2 = h.toNat) := by
  refine ⟨_, _, impOption_ts_eq s b up c, fun hs hq => by simp [ts2Of, hs, hq],
    fun hs hq => ⟨fun h hh h1 h2 => ?_, fun hok => ?_⟩, fun hs h hh h0 h1 => ?_⟩
  · simp [ts2Of, hs, hq, hh, getD_inRange_hint (And.intro h1 h2)]
  · have := (ts2Of_spec s b up c hok).2 hs
    rw [hq] at this
    simpa using this
  · simp [ts2Of, hs, hh, getD_inRange_hint (And.intro h0 h1)]

/-- an MSS / window scale / timestamp option of the output is the one made for a layout entry of that kind: alignment
    only stretches SACK and unknown-kind options, and an EOL entry only yields EOL and NOP -/
theorem mem_impOptions (s : Sig) (b : Base) (up : Option Int) (c : Choices) {o : SOpt} (h : o ∈ impOptions s b up c)
    (hk : o.kind = 2 ∨ o.kind = 3 ∨ o.kind = 8) (hr : ∀ k n, o ≠ .raw k n) : ∃ c', o = plainOpt s b up o.kind c' := by
  rw [impOptions, alignOptions_eq] at h
  rcases mem_stretchFirst _ _ _ h with h | ⟨n, _, rfl⟩ | ⟨k, n, _, e⟩
  · obtain ⟨k, _, c', hc'⟩ := mem_impOptionsGo _ _ _ _ _ _ h
    rw [impOption_eq] at hc'
    split at hc'
    · simp only [List.mem_cons, List.mem_replicate] at hc'
      rcases hc' with rfl | ⟨_, rfl⟩
      · exact absurd hk (by decide)
      · split at hk <;> exact absurd hk (by decide)
    · next h0 =>
      obtain rfl := List.mem_singleton.mp hc'
      exact ⟨c', by rw [(plainOpt_kind s b up c' h0).1]⟩
  · simp [SOpt.kind] at hk
  · exact absurd e (hr _ _)

/-- **C14, a fixed value always overrides the hint**: with a fixed MSS / scale in the signature every MSS / window
    scale option of the output carries exactly that value, whatever the base packet offered -/
theorem out_fixed_overrides (s : Sig) (b : Base) (up : Option Int) (c : Choices) :
    (∀ m v, s.mss = some m → SOpt.mss v ∈ impOptions s b up c → v = m) ∧
    (∀ w v, s.scale = some w → SOpt.ws v ∈ impOptions s b up c → v = w) := by
  refine ⟨fun m v hm hv => ?_, fun w v hw hv => ?_⟩
  · obtain ⟨c', e⟩ := mem_impOptions s b up c hv (.inl rfl) fun _ _ => SOpt.noConfusion
    rw [SOpt.mss.inj e, mssOf, hm]; rfl
  · obtain ⟨c', e⟩ := mem_impOptions s b up c hv (.inr (.inl rfl)) fun _ _ => SOpt.noConfusion
    rw [SOpt.ws.inj e, wsOf, hw]; rfl

/-- **C14, an admissible hint is kept**: with a wildcard MSS / scale and an admissible hint in the base packet, every
    MSS / window scale option of the output carries the hint -/
theorem out_hint_kept (s : Sig) (b : Base) (up : Option Int) (c : Choices) (hwz : s.wtype = .mss → 0 < s.wsize) :
    (∀ h v, s.mss = none → b.mssHint = some h → MssAdmissible s h → SOpt.mss v ∈ impOptions s b up c → v = h.toNat) ∧
    (∀ h v, s.scale = none → b.wsHint = some h → WsAdmissible s h → SOpt.ws v ∈ impOptions s b up c → v = h.toNat) := by
  refine ⟨fun h v hm hh hadm hv => ?_, fun h v hs hh hadm hv => ?_⟩
  · obtain ⟨c', e⟩ := mem_impOptions s b up c hv (.inl rfl) fun _ _ => SOpt.noConfusion
    rw [SOpt.mss.inj e, mssOf, hm, hh, getD_inRange_hint ((mssBounds_mem_iff s h hwz).mpr hadm), Option.getD_none]
  · obtain ⟨c', e⟩ := mem_impOptions s b up c hv (.inr (.inl rfl)) fun _ _ => SOpt.noConfusion
    rw [SOpt.ws.inj e, wsOf_eq, hs, hh, getD_inRange_hint ((wsBounds_mem_iff s h).mpr hadm), Option.getD_none]

/-- **window**: with a `*` window the base's own window is kept -/
theorem imp_window_any (s : Sig) (b : Base) (hops : Int) (mtu : Nat) (up : Option Int) (c : Choices) (o : OutPkt)
    (h : impTcp s b hops mtu up c = .ok o) (hw : s.wtype = .any) : o.window = b.window := by
  have := (impTcp_fields h).window
  rw [impWindow, hw] at this
  exact (Except.ok.inj this).symm

/-- **IPv4 id**: whenever the signature leaves the id free (`df,id+`, or neither `df` nor `id-`) a non-zero base
    id is kept; `id-` / `df` without `id+` force it to zero -/
theorem imp_ip_id (s : Sig) (b : Base) (hops : Int) (mtu : Nat) (up : Option Int) (c : Choices) (o : OutPkt)
    (h : impTcp s b hops mtu up c = .ok o) (h4 : b.ipVer ≠ 6) :
    ((s.quirks .df = true ∧ s.quirks .nzId = true) ∨ (s.quirks .df = false ∧ s.quirks .zeroId = false) →
        b.ipId ≠ 0 → o.ipId = b.ipId) ∧
    ((s.quirks .df = true ∧ s.quirks .nzId = false) ∨ (s.quirks .df = false ∧ s.quirks .zeroId = true) → o.ipId = 0) := by
  rw [(impTcp_fields h).ipId, if_neg (mt beq_iff_eq.mp h4), impIpId]
  refine ⟨?_, ?_⟩
  · rintro (⟨h1, h2⟩ | ⟨h1, h2⟩) hid <;> simp [h1, h2, hid]
  · rintro (⟨h1, h2⟩ | ⟨h1, h2⟩) <;> simp [h1, h2]

/-- **payload**: kept for class `*`; kept for class `+` when there is one; removed for class `0` -/
theorem imp_payload (s : Sig) (b : Base) (hops : Int) (mtu : Nat) (up : Option Int) (c : Choices) (o : OutPkt)
    (h : impTcp s b hops mtu up c = .ok o) :
    (s.payClass = none → o.payload = b.payload) ∧
    (s.payClass = some true → b.payload ≠ [] → o.payload = b.payload) ∧
    (s.payClass = some false → o.payload = []) := by
  rw [(impTcp_fields h).payload, impPayload]
  refine ⟨fun hp => by rw [hp], fun hp hne => ?_, fun hp => by rw [hp]⟩
  rw [hp]
  exact if_neg (mt List.isEmpty_iff.mp hne)

/-! non-vacuity: the admissibility predicates are satisfiable and refutable -/
def exSigMss4 : Sig :=
  { ipVer := none, olen := 0, ttl := 64, badTtl := false, wtype := .mss, wsize := 4, scale := none,
    layout := [2], mss := none, eolPad := 0, payClass := none, quirks := QSet.empty }

example : MssAdmissible exSigMss4 1460 := by unfold MssAdmissible exSigMss4; simp
example : ¬ MssAdmissible exSigMss4 99 := by unfold MssAdmissible exSigMss4; simp
example : ¬ MssAdmissible exSigMss4 16384 := by unfold MssAdmissible exSigMss4; simp

end P0f
