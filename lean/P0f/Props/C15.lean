import P0f.Lemmas.Str
import P0f.Lemmas.Db
/-
  C15 — records are addressable by the label text shown in the database.
-/
namespace P0f
open P0f.Py

/-- **C15, label text round trip**: a four-part label text `type:class:name:flavour` (type `s`/`g`, any
    class, name and flavour - spaces and punctuation allowed, no colon, flavour possibly empty)
    parses to exactly those fields and dumps back to exactly that text. -/
theorem label_parse_dump (g : Bool) (cls name flav : List Char)
    (h1 : ':' ∉ cls) (h2 : ':' ∉ name) (h3 : ':' ∉ flav) :
    parseLabel ([':'].intercalate [[if g then 'g' else 's'], cls, name, flav])
        = some { generic := g, osClass := cls, name := name, flavor := flav } ∧
      LabelM.dump { generic := g, osClass := cls, name := name, flavor := flav }
        = [':'].intercalate [[if g then 'g' else 's'], cls, name, flav] := by
  refine ⟨?_, rfl⟩
  unfold parseLabel
  have hg : ':' ∉ [if g then 'g' else 's'] := by cases g <;> decide
  rw [splitParts_intercalate (by rfl) (by simp only [List.forall_mem_cons]; exact ⟨hg, h1, h2, h3, nofun⟩)]
  cases g <;> simp

/-- whatever text `Label.parse` accepts, the dumped label is a four-part text without further colons
    and parses back to the same label: `dump` is the canonical address of the record -/
theorem parseLabel_dump_fixpoint (t : List Char) (l : LabelM) (h : parseLabel t = some l) :
    parseLabel l.dump = some l := by
  unfold parseLabel at h
  split at h
  · rename_i ty cls name flavor heq
    have hmem : ∀ p ∈ [ty, cls, name, flavor], ':' ∉ p := heq ▸ not_mem_of_mem_splitParts ':' 4 t
    have hc := hmem cls (by simp)
    have hn := hmem name (by simp)
    have hf := hmem flavor (by simp)
    split at h
    · cases h; exact (label_parse_dump false cls name flavor hc hn hf).1
    · split at h
      · cases h; exact (label_parse_dump true cls name flavor hc hn hf).1
      · cases h
  · cases h

theorem labelIs_iff (r : DbRec) (raw : List Char) :
    r.labelIs raw = true ↔ ∃ lb, r.label = some lb ∧ lb.dump = raw := by
  unfold DbRec.labelIs
  cases r.label with
  | none => simp
  | some lb => simp only [beq_iff_eq, Option.some.injEq, exists_eq_left']; exact eq_comm

/-- **C15, lookup is sound and complete**: the candidates `get_random` draws from are exactly the
    records of the requested kind and direction whose dumped label equals the text (exact, hence
    case-sensitive, comparison) - nothing else can be returned and each of them can be. -/
theorem candidates_iff (db : Db) (raw : List Char) (k : RecKind) (d : Option Dir) (c : List DbRec)
    (h : db.candidates raw k d = .ok c) :
    ∃ l, db.iter k d = .ok l ∧ c ≠ [] ∧
      ∀ r, r ∈ c ↔ (r ∈ l ∧ ∃ lb, r.label = some lb ∧ lb.dump = raw) := by
  unfold Db.candidates at h
  cases hi : db.iter k d with
  | error e => simp [hi] at h
  | ok l =>
    simp only [hi] at h
    split at h
    · cases h
    · rename_i hne
      cases h
      exact ⟨l, rfl, by simpa using hne, fun r => by rw [List.mem_filter, labelIs_iff]⟩

/-- **C15, no candidate = DatabaseError** (also when the section was never loaded) -/
theorem candidates_error_iff (db : Db) (raw : List Char) (k : RecKind) (d : Option Dir) :
    (∃ e, db.candidates raw k d = .error e) ↔
      ((∃ e, db.iter k d = .error e) ∨
        ∃ l, db.iter k d = .ok l ∧ ∀ r ∈ l, ∀ lb, r.label = some lb → lb.dump ≠ raw) := by
  unfold Db.candidates
  cases hi : db.iter k d with
  | error e => simp
  | ok l =>
    have hf : (l.filter (·.labelIs raw)).isEmpty = true ↔ ∀ r ∈ l, ∀ lb, r.label = some lb → lb.dump ≠ raw := by
      simp only [List.isEmpty_iff, List.filter_eq_nil_iff, labelIs_iff, not_exists, not_and]
    simp only [reduceCtorEq, exists_false, false_or, Except.ok.injEq, exists_eq_left', ← hf]
    split <;> simp [*]

theorem candidates_error_database (db : Db) (raw : List Char) (k : RecKind) (d : Option Dir) (e : LoadErr)
    (h : db.candidates raw k d = .error e) : e = .database := by
  unfold Db.candidates at h
  cases hi : db.iter k d with
  | error e' => rw [hi] at h; cases h; exact Db.iter_error hi
  | ok l =>
    simp only [hi] at h
    split at h <;> cases h
    rfl

/-- **C15, what a loaded record's label dumps to**: the record of a `sig` line carries the label of the
    most recent `label` line; if that line's text is a four-part label, dumping gives that text back. -/
theorem loaded_label_dump (pre : List LineKind) (g : Bool) (cls name flav : List Char) (s : Section)
    (hs : lastSection pre = some s) (hk : s.kind ≠ .mtu)
    (h1 : ':' ∉ cls) (h2 : ':' ∉ name) (h3 : ':' ∉ flav) :
    (lastLabel (.label ([':'].intercalate [[if g then 'g' else 's'], cls, name, flav]) :: pre)).map DbLabel.dump
      = some ([':'].intercalate [[if g then 'g' else 's'], cls, name, flav]) := by
  obtain ⟨hp, hd⟩ := label_parse_dump g cls name flav h1 h2 h3
  simp only [lastLabel, hs]
  unfold parseLabelFor
  cases hkk : s.kind with
  | mtu => exact absurd hkk hk
  | tcp | http => simp only [hp, Option.map_some, DbLabel.dump, hd]

example : (parseLabel "s:unix:Linux:2.2.x-3.x (barebone)".toList).map LabelM.dump
    = some "s:unix:Linux:2.2.x-3.x (barebone)".toList := by decide +kernel
example : (parseLabel "g:!:a b:".toList).map LabelM.dump = some "g:!:a b:".toList := by decide +kernel

end P0f
