import P0f.Props.C09
import P0f.Model.Api
/-
  C11 — database (re)load is atomic, idempotent and never observed half-done.

  The state pyp0f keeps between calls is the live record map of the `Database` object (`Db`).
  `apiStep` is one public call against it, `apiRun` a whole history.
-/
namespace P0f

/-- **C11, failed load**: a load that raises leaves the previously loaded records exactly as they were -/
theorem failed_load_preserves (db : Db) (f : FileArg) (e : LoadErr)
    (h : (apiStep db (.load f)).2 = .loadErr e ∨ (dbLoad db f).1 = .error e) :
    (apiStep db (.load f)).1 = db := by
  simp only [apiStep, dbLoad]
  cases hp : parseFile f with
  | ok d =>
    rcases h with h | h
    · simp [apiStep, dbLoad, hp] at h
    · simp [dbLoad, hp] at h
  | error e' => rfl

/-- **C11, successful load replaces**: the database after a successful load does not depend on what was
    loaded before (no accumulation across loads) ... -/
theorem load_replaces (db db' : Db) (f : FileArg) (h : (dbLoad db f).1.toOption.isSome = true) :
    (apiStep db (.load f)).1 = (apiStep db' (.load f)).1 := by
  simp only [apiStep, dbLoad] at *
  cases hp : parseFile f with
  | ok d => rfl
  | error e => simp [hp, Except.toOption] at h

/-- ... and is exactly the database the file denotes (C09's `specDb`) -/
theorem load_result (db : Db) (t : List Char) (h : (dbLoad db (.text t)).1.toOption.isSome = true) :
    (apiStep db (.load (.text t))).1 = specDb (pyLines t) := by
  simp only [apiStep, dbLoad, parseFile] at *
  cases hp : parseText t with
  | ok d => simpa using parseText_records t d hp
  | error e => simp [hp, Except.toOption] at h

/-- **C11, idempotent**: loading the same file twice gives the same database as loading it once -/
theorem load_idempotent (db : Db) (f : FileArg) :
    (apiStep (apiStep db (.load f)).1 (.load f)).1 = (apiStep db (.load f)).1 := by
  simp only [apiStep, dbLoad]
  cases parseFile f with
  | ok d => simp
  | error e => simp

/-- **C11, reader**: at every line-read point of a load a reader of the shared object sees either
    the complete old contents or the complete new contents -/
theorem reader_old_or_new (cur : Db) (f : FileArg) :
    ∀ d ∈ loadObservations cur f, d = cur ∨ d = (dbLoad cur f).2 := by
  intro d hd
  cases f with
  | unreadable => simp [loadObservations] at hd; exact Or.inl hd
  | text t =>
    simp only [loadObservations, List.mem_append, List.mem_map, List.mem_range, List.mem_singleton] at hd
    rcases hd with ⟨_, _, rfl⟩ | rfl
    · exact Or.inl rfl
    · exact Or.inr rfl

/-- and the new contents are only ever seen if the load succeeds -/
theorem reader_new_only_on_success (cur : Db) (f : FileArg) (e : LoadErr)
    (h : (dbLoad cur f).1 = .error e) : ∀ d ∈ loadObservations cur f, d = cur :=
  fun d hd => (reader_old_or_new cur f d hd).elim id (· ▸ dbLoad_error h)

/-- only `load` changes the database: fingerprinting, lookups, `len` and impersonation leave every
    record, label and signature as they are (the database part of C12) -/
theorem only_load_changes (db : Db) (c : Call) (h : ∀ f, c ≠ .load f) : (apiStep db c).1 = db := by
  cases c with
  | load f => exact absurd rfl (h f)
  | _ => rfl

/-- **C11, not loaded = DatabaseError, never "no match"**: on a database no successful load has filled,
    every fingerprint call raises (PacketError for an unusable packet, else DatabaseError) -/
theorem unloaded_is_error_tcp (p : PktL) (s : Nat) (d : Int) :
    apiFpTcp Db.empty p s d = .error .packet ∨ apiFpTcp Db.empty p s d = .error .database := by
  unfold apiFpTcp
  split
  · exact Or.inl rfl
  · right; simp [Db.iter_empty]

theorem unloaded_is_error_mtu (p : PktL) :
    apiFpMtu Db.empty p = .error .packet ∨ apiFpMtu Db.empty p = .error .database := by
  unfold apiFpMtu
  split
  · exact Or.inl rfl
  · right; simp [Db.iter_empty]

theorem unloaded_is_error_http (b : Bytes) :
    apiFpHttp Db.empty b = .error .packet ∨ apiFpHttp Db.empty b = .error .database := by
  unfold apiFpHttp
  split
  · right; simp [Db.iter_empty]
  · exact Or.inl rfl

/-! ### histories (also C16): what a call returns depends on the history only through the live database,
    and that is the database of the last successful load -/

theorem apiRun_append (db : Db) (a b : List Call) :
    apiRun db (a ++ b) = ((apiRun (apiRun db a).1 b).1, (apiRun db a).2 ++ (apiRun (apiRun db a).1 b).2) := by
  induction a generalizing db with
  | nil => simp [apiRun]
  | cons c cs ih => simp only [List.cons_append, apiRun, ih]

/-- the database after a history = the database of the last successful load in it -/
def lastLoaded : Db → List Call → Db
  | db, [] => db
  | db, .load f :: cs =>
    match parseFile f with
    | .ok d => lastLoaded d cs
    | .error _ => lastLoaded db cs
  | db, _ :: cs => lastLoaded db cs

theorem apiRun_db (db : Db) (h : List Call) : (apiRun db h).1 = lastLoaded db h := by
  induction h generalizing db with
  | nil => rfl
  | cons c cs ih =>
    simp only [apiRun]
    cases c with
    | load f =>
      simp only [apiStep, dbLoad, lastLoaded]
      cases hp : parseFile f with
      | ok d => simp [ih]
      | error e => simp [ih]
    | _ => simp [apiStep, lastLoaded, ih]

theorem no_successful_load_stays_empty (h : List Call)
    (hl : ∀ f, Call.load f ∈ h → ∃ e, parseFile f = .error e) : (apiRun Db.empty h).1 = Db.empty := by
  rw [apiRun_db]
  induction h with
  | nil => rfl
  | cons c cs ih =>
    have ih := ih fun f hf => hl f (List.mem_cons_of_mem _ hf)
    cases c with
    | load f =>
      obtain ⟨e, he⟩ := hl f List.mem_cons_self
      simpa [lastLoaded, he] using ih
    | _ => exact ih

/-- **C11 / C16, history independence**: two histories that end with the same successful load answer
    any following call identically, whatever was loaded, fingerprinted or impersonated before -/
theorem history_independent (db1 db2 : Db) (h1 h2 : List Call) (f : FileArg) (c : Call)
    (hok : ∃ d, parseFile f = .ok d) :
    (apiRun db1 (h1 ++ [.load f, c])).2.getLast? = (apiRun db2 (h2 ++ [.load f, c])).2.getLast? ∧
    (apiRun db1 (h1 ++ [.load f, c])).1 = (apiRun db2 (h2 ++ [.load f, c])).1 := by
  obtain ⟨d, hd⟩ := hok
  simp only [apiRun_append, apiRun, apiStep, dbLoad, hd]
  constructor
  · simp [List.getLast?_append]
  · trivial

/-- repeating a call, or interleaving calls that are not loads, does not change any answer -/
theorem repeat_stable (db : Db) (c c' : Call) (hc' : ∀ f, c' ≠ .load f) :
    (apiStep (apiStep db c').1 c).2 = (apiStep db c).2 := by
  rw [only_load_changes db c' hc']

end P0f
