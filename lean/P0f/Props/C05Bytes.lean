import P0f.Props.C05
import P0f.Props.C05Serialise
/-
  C05, byte level: the packet `impersonate_tcp` builds, serialised (`OutPkt.toBytes`) and read back by the
  verified extraction, matches the requested signature (`Props/C05Serialise.lean` holds the decode-of-serialise step).
-/
namespace P0f

/-- the base packet's own fields fit (it was dissected from, or can be built into, a datagram); the bound on the payload
    is one that keeps the output's payload - the base's own, or a drawn one of at most 1000 bytes - within
    `OutPkt.Fits.payload` -/
structure Base.Fits (b : Base) : Prop where
  addr4 : b.ipVer = 4 → b.src.length = 4 ∧ b.dst.length = 4
  addr6 : b.ipVer = 6 → b.src.length = 16 ∧ b.dst.length = 16
  ipId : b.ipId < 65536
  sport : b.sport < 65536
  dport : b.dport < 65536
  seq : b.seq < 4294967296
  ack : b.ack < 4294967296
  window : b.window < 65536
  payload : b.payload.length ≤ 59000

theorem impTcp_fits (s : Sig) (b : Base) (hops : Int) (mtu : Nat) (up : Option Int) (c : Choices) (o : OutPkt)
    (hadm : Admissible b) (hsup : Supported s b) (hbf : b.Fits) (hc : choicesOk s b up c = true)
    (hh0 : 0 ≤ hops) (hh1 : hops < s.ttl) (hr : RunFacts s b hops mtu up c o) : o.Fits := by
  have hf := impTcp_fields hr.run
  have d := choicesOk_parts hc
  refine { tos := (hf.tos_spec d).2, ipId := (hf.ipId_spec d).2 hbf.ipId, ipFlags := ?_, ipFrag := ?_, ttl := ?_,
           fl := (hf.fl_spec d).2, ipOpt := ?_, sport := hf.sport ▸ hbf.sport, dport := hf.dport ▸ hbf.dport,
           seq := (hf.seq_spec d).2 hbf.seq, ack := (hf.ack_spec d).2 hbf.ack, flags := (hf.flags_spec hadm).1, window := ?_,
           urp := (hf.urp_spec d).2 (hadm.urp0 ▸ by decide), opts := hr.optLen,
           payload := (hf.payload_spec d).2 hbf.payload }
  · rw [hf.ipFlags]
    split
    · decide
    · exact (impIpFlagsB_facts b.ipFlags hadm.ipFlagsLt _ _).1
  · rw [hf.ipFrag]
    split
    · rfl
    · exact hadm.noFrag
  · rw [hf.ttl]; have := hsup.ttlOk; omega
  · rw [hf.ipOptLen]
    split
    · decide
    · exact hsup.sizeOk.1
  · obtain ⟨wNormal, wMod, _, wAny⟩ := hr.window
    cases hw : s.wtype with
    | normal => rw [wNormal hw]; exact hsup.winOk.1 hw
    | mod =>
      rw [wMod hw]
      have := Nat.mul_le_mul_left s.wsize (d.winMul hw).2
      have := Nat.mul_div_le 65535 s.wsize
      omega
    | mss =>
      have := hr.lastMss_win hsup hw
      omega
    | mtu => exact absurd hw hsup.notMtu
    | any => rw [wAny hw]; exact hbf.window

/-- **C05, down to the bytes**: under the hypotheses of `imp_exact_partial` and for a base packet whose own fields fit
    a datagram, the packet `impersonate_tcp` returns, *serialised* (`OutPkt.toBytes`) and *dissected again* by the
    verified extraction (`decodeV4` / `decodeV6`, `pktSigOfPkt` - the C03 model of what pyp0f reads off the wire),
    is well framed and matches the requested signature exactly at TTL distance `extra_hops`. -/
theorem imp_exact_bytes (s : Sig) (b : Base) (hops d : Int) (mtu : Nat) (up : Option Int) (c : Choices)
    (hadm : Admissible b) (hsup : Supported s b) (hbf : b.Fits) (hc : choicesOk s b up c = true)
    (hh0 : 0 ≤ hops) (hh1 : hops < s.ttl) (hh2 : hops ≤ d) :
    ∃ o p, impTcp s b hops mtu up c = .ok o ∧
      (if b.ipVer = 4 then decodeV4 o.toBytes else decodeV6 o.toBytes) = some p ∧
      tcpMatchPkt s (pktSigOfPkt p 0) d = some .exact ∧
      (s.ttl : Int) - ((pktSigOfPkt p 0).ttl : Int) = hops := by
  obtain ⟨o, hr⟩ := run_facts s b hops mtu up c hsup hc
  obtain ⟨hmatch, hdist⟩ := hr.exact_match d hadm hsup hc hh0 hh1 hh2
  have hfits := impTcp_fits s b hops mtu up c o hadm hsup hbf hc hh0 hh1 hr
  have hf := impTcp_fields hr.run
  rcases hadm.ver with h4 | h6
  · obtain ⟨p, hp, hsig⟩ := decodeV4_toBytes o hfits (hf.ipVer.trans h4) (hf.src ▸ (hbf.addr4 h4).1) (hf.dst ▸ (hbf.addr4 h4).2)
    exact ⟨o, p, hr.run, (if_pos h4).trans hp, hsig ▸ hmatch, hsig ▸ hdist⟩
  · obtain ⟨p, hp, hsig⟩ := decodeV6_toBytes o hfits (hf.ipVer.trans h6) (hf.src ▸ (hbf.addr6 h6).1) (hf.dst ▸ (hbf.addr6 h6).2)
    exact ⟨o, p, hr.run, (if_neg (by omega)).trans hp, hsig ▸ hmatch, hsig ▸ hdist⟩

end P0f
