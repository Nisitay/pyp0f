import P0f.Lemmas.SigParse
/-
  C10, signature texts — out-of-range values are never accepted: what `TCPSignature.parse` and its field parsers accept
  lies inside the documented ranges (`Sig.WF`).
-/
namespace P0f
open P0f.Py

/-- the ranges and keyword sets of the p0f grammar: what every accepted text satisfies (`parseTcpSig_wf`), and what makes a
    structured signature printable and readable back (`parseTcpSig_render_eq`) -/
structure Sig.WF (s : Sig) : Prop where
  ver : s.ipVer = none ∨ s.ipVer = some 4 ∨ s.ipVer = some 6
  ttl : 1 ≤ s.ttl ∧ s.ttl ≤ 255
  olen : s.olen ≤ 255
  mss : ∀ m, s.mss = some m → m ≤ 65535
  win : (s.wtype = .normal → s.wsize ≤ 65535) ∧ (s.wtype = .mod → 2 ≤ s.wsize ∧ s.wsize ≤ 65535) ∧
    ((s.wtype = .mss ∨ s.wtype = .mtu) → 1 ≤ s.wsize ∧ s.wsize ≤ 1000) ∧ (s.wtype = .any → s.wsize = 0)
  scale : ∀ c, s.scale = some c → c ≤ 255
  kinds : ∀ k ∈ s.layout, k ≤ 255
  pad : s.eolPad ≤ 255 ∧ (0 ∉ s.layout → s.eolPad = 0)
  quirks : ∀ q, s.quirks q = true → quirkInvalidFor s.ipVer q = false

/-- `MTUSignature.parse` accepts only 1..65535 -/
theorem parseMtuSig_range (t : List Char) (m : Nat) (h : parseMtuSig t = some m) : 1 ≤ m ∧ m ≤ 65535 :=
  parseNumberN_range h

/-- `_parse_ttl` accepts only final TTLs 1..255 (also for `ttl+dist`) -/
theorem parseTtl_range (f : List Char) (t : Nat) (b : Bool) (h : parseTtl f = some (t, b)) :
    1 ≤ t ∧ t ≤ 255 := by
  revert h
  unfold parseTtl
  refine iteInduction (motive := fun o => o = some (t, b) → _) (fun _ h => ?_) fun _ =>
    iteInduction (motive := fun o => o = some (t, b) → _) (fun _ h => ?_) fun _ h => ?_
  · obtain ⟨m, hm, he⟩ := parseNumberN_map_range h; cases he; exact hm
  · -- `ttl+dist`: the initial TTL is at least 1 and the sum was tested
    simp only at h
    split at h
    · rename_i d t' _ ht
      have := parseNumberN_range ht
      split at h
      · cases h
      · cases h; omega
    · cases h
  · obtain ⟨m, hm, he⟩ := parseNumberN_map_range h; cases he; exact hm

/-- `_parse_window` accepts only the documented forms and ranges -/
theorem parseWindow_range (f : List Char) (wt : WinType) (n : Nat) (sc : Option Nat)
    (h : parseWindow f = some (wt, n, sc)) :
    (wt = .normal → n ≤ 65535) ∧ (wt = .mod → 2 ≤ n ∧ n ≤ 65535) ∧
      ((wt = .mss ∨ wt = .mtu) → 1 ≤ n ∧ n ≤ 1000) ∧ (∀ s, sc = some s → s ≤ 255) :=
  have ⟨hw, hsc⟩ := parseWindow_some f wt n sc h
  have ⟨hnormal, hmod, hmult, _⟩ := winOk_iff.mp hw
  ⟨hnormal, hmod, hmult, hsc⟩

theorem optionOfName_le (s : List Char) : ∀ k, optionOfName s = some k → k ≤ 8 := by
  unfold optionOfName
  iterate 6 refine iteInduction (motive := fun o => ∀ k, o = some k → k ≤ 8) (fun _ k h => by cases h; decide) fun _ => ?_
  exact nofun

theorem parseOptionItem_range (raw : List Char) (k : Nat) (p : Option Nat)
    (h : parseOptionItem raw = some (k, p)) : k ≤ 255 ∧ ∀ n, p = some n → n ≤ 255 ∧ k = 0 := by
  revert h
  unfold parseOptionItem
  refine iteInduction (motive := fun o => o = some (k, p) → _) (fun _ h => ?_) fun _ =>
    iteInduction (motive := fun o => o = some (k, p) → _) (fun _ h => ?_) fun _ h => ?_
  · obtain ⟨m, hm, he⟩ := parseNumberN_map_range h; cases he; exact ⟨hm.2, nofun⟩
  · obtain ⟨m, hm, he⟩ := parseNumberN_map_range h; cases he
    exact ⟨Nat.zero_le _, fun n hn => by cases hn; exact ⟨hm.2, rfl⟩⟩
  · obtain ⟨m, hm, he⟩ := Option.map_eq_some_iff.mp h; cases he
    exact ⟨Nat.le_trans (optionOfName_le raw _ hm) (by decide), nofun⟩

theorem parseOptionsField_some (f : List Char) (l : List Nat) (p : Nat)
    (h : parseOptionsField f = some (l, p)) : (∀ k ∈ l, k ≤ 255) ∧ p ≤ 255 ∧ (0 ∉ l → p = 0) := by
  refine foldlM_inv (P := fun a => (∀ k ∈ a.1, k ≤ 255) ∧ a.2 ≤ 255 ∧ (0 ∉ a.1 → a.2 = 0)) ?_ (by simp) h
  intro acc raw acc' ⟨h1, h2, h3⟩ hs
  unfold optionsStep at hs
  split at hs
  · rename_i kp hkp
    cases hs
    obtain ⟨k, p⟩ := kp
    obtain ⟨hk, hpad⟩ := parseOptionItem_range raw k p hkp
    refine ⟨List.forall_mem_append.mpr ⟨h1, List.forall_mem_singleton.mpr hk⟩, ?_⟩
    cases p with
    | none => exact ⟨h2, fun h0 => h3 fun hm => h0 (List.mem_append_left _ hm)⟩
    | some n =>
      obtain ⟨hn, rfl⟩ := hpad n rfl
      exact ⟨hn, fun h0 => absurd (List.mem_append_right _ (List.mem_singleton_self 0)) h0⟩
  · cases hs

/-- `_parse_options`: every kind 0..255, EOL padding 0..255 -/
theorem parseOptionsField_range (f : List Char) (l : List Nat) (p : Nat)
    (h : parseOptionsField f = some (l, p)) : (∀ k ∈ l, k ≤ 255) ∧ p ≤ 255 :=
  have ⟨h1, h2, _⟩ := parseOptionsField_some f l p h
  ⟨h1, h2⟩

/-- `_parse_quirks` accepts no quirk that is illegal for the IP version -/
theorem parseQuirksField_legal (f : List Char) (ver : Option Nat) (qs : QSet) (h : parseQuirksField f ver = some qs) :
    ∀ q, qs q = true → quirkInvalidFor ver q = false := by
  refine foldlM_inv (P := fun a => ∀ q, a q = true → quirkInvalidFor ver q = false) ?_ (by simp [QSet.empty]) h
  intro acc raw acc' hacc hs
  unfold quirksStep at hs
  split at hs
  · rename_i q0 _
    split at hs
    · cases hs
    · rename_i hinv
      cases hs
      intro q hq
      rcases Bool.or_eq_true_iff.mp hq with hq | hq
      · exact hacc q hq
      · cases beq_iff_eq.mp hq; simpa using hinv
  · cases hs

theorem parseIpVersion_range (f : List Char) (v : Option Nat) (h : parseIpVersion f = some v) :
    v = none ∨ v = some 4 ∨ v = some 6 := by
  revert h
  unfold parseIpVersion
  iterate 3 refine iteInduction (motive := fun o => o = some v → _) (fun _ h => by cases h; simp) fun _ => ?_
  exact nofun

/-- `TCPSignature.parse` is its eight field parsers applied to the eight colon-separated pieces -/
theorem parseTcpSig_fields (t : List Char) (s : Sig) (h : parseTcpSig t = some s) :
    ∃ rVer rTtl rOlen rMss rWin rOpts rQuirks rPay,
      splitParts ':' 8 t = [rVer, rTtl, rOlen, rMss, rWin, rOpts, rQuirks, rPay] ∧
      parseIpVersion rVer = some s.ipVer ∧ parseTtl rTtl = some (s.ttl, s.badTtl) ∧
      parseNumberN rOlen 0 255 = some s.olen ∧ parseNumberW rMss 0 65535 = some s.mss ∧
      parseWindow rWin = some (s.wtype, s.wsize, s.scale) ∧ parseOptionsField rOpts = some (s.layout, s.eolPad) ∧
      parsePayloadClass rPay = some s.payClass ∧ parseQuirksField rQuirks s.ipVer = some s.quirks := by
  unfold parseTcpSig at h
  split at h
  · rename_i rVer rTtl rOlen rMss rWin rOpts rQuirks rPay hsp
    split at h
    · rename_i hver httl holen hmss hwin hopts hpay
      obtain ⟨q, hq, he⟩ := Option.map_eq_some_iff.mp h
      cases he
      exact ⟨_, _, _, _, _, _, _, _, hsp, hver, httl, holen, hmss, hwin, hopts, hpay, hq⟩
    · cases h
  · cases h

theorem parseTcpSig_wf (t : List Char) (s : Sig) (h : parseTcpSig t = some s) : s.WF := by
  obtain ⟨_, _, _, _, _, _, _, _, _, hver, httl, holen, hmss, hwin, hopts, _, hq⟩ := parseTcpSig_fields t s h
  have ⟨hw, hsc⟩ := parseWindow_some _ _ _ _ hwin
  have ⟨hk, hp, hp0⟩ := parseOptionsField_some _ _ _ hopts
  exact ⟨parseIpVersion_range _ _ hver, parseTtl_range _ _ _ httl,
    (parseNumberN_range holen).2, fun m hm => (parseNumberW_range hmss m hm).2,
    winOk_iff.mp hw, hsc, hk, ⟨hp, hp0⟩, parseQuirksField_legal _ _ _ hq⟩

/-- **C10, never silently accepted**: a TCP signature text the parser accepts lies inside every
    documented range, uses only known keywords and no quirk illegal for its IP version. -/
theorem parseTcpSig_ranges (t : List Char) (s : Sig) (h : parseTcpSig t = some s) :
    (s.ipVer = none ∨ s.ipVer = some 4 ∨ s.ipVer = some 6) ∧
    1 ≤ s.ttl ∧ s.ttl ≤ 255 ∧ s.olen ≤ 255 ∧ (∀ m, s.mss = some m → m ≤ 65535) ∧
    (s.wtype = .normal → s.wsize ≤ 65535) ∧ (s.wtype = .mod → 2 ≤ s.wsize ∧ s.wsize ≤ 65535) ∧
    ((s.wtype = .mss ∨ s.wtype = .mtu) → 1 ≤ s.wsize ∧ s.wsize ≤ 1000) ∧
    (∀ c, s.scale = some c → c ≤ 255) ∧ (∀ k ∈ s.layout, k ≤ 255) ∧ s.eolPad ≤ 255 ∧
    (∀ q, s.quirks q = true → quirkInvalidFor s.ipVer q = false) :=
  have w := parseTcpSig_wf t s h
  have ⟨hnormal, hmod, hmult, _⟩ := w.win
  ⟨w.ver, w.ttl.1, w.ttl.2, w.olen, w.mss, hnormal, hmod, hmult, w.scale, w.kinds, w.pad.1, w.quirks⟩

end P0f
