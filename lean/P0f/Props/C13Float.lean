import P0f.Lemmas.Q
import P0f.Lemmas.Uptime
import Mathlib.Data.Rat.Floor
import Mathlib.Algebra.Order.Field.Basic
import Mathlib.Algebra.Order.Floor.Ring
import Mathlib.Tactic.Positivity
/-
  C13, the float step.  `fingerprint_uptime` evaluates `raw = ticks * 1000.0 / ms` in binary64 and then only
  (i) compares `raw` with the two thresholds, (ii) truncates it with `int()`, (iii) compares an integer with
  `max_timestamp_scale / timestamp_grace`.  The model carries all of these as exact rationals.  This file proves that
  the exact reading gives the same Booleans and the same integer as ANY rounding function with the three standard
  properties of IEEE-754 round-to-nearest (stated as hypotheses of a structure, not as axioms), on the documented
  domain.  That CPython's `float` is such a rounding function is the assumption that remains in the trusted base.
-/
namespace P0f

/-- round-to-nearest into a set of representable numbers that contains the integers up to 2^53:
    monotone, exact on those integers, relative error at most 2^-53 -/
structure Rounding (rn : ℚ → ℚ) : Prop where
  mono : ∀ x y, x ≤ y → rn x ≤ rn y
  exactInt : ∀ n : ℤ, |n| ≤ 2 ^ 53 → rn n = n
  relErr : ∀ x, |rn x - x| ≤ |x| / 2 ^ 53

/-- non-vacuity: the identity (exact arithmetic) is a rounding function in this sense -/
example : Rounding (fun x : ℚ => x) :=
  ⟨fun _ _ h => h, fun _ _ => rfl, fun x => by simp only [sub_self, abs_zero]; positivity⟩

variable {rn : ℚ → ℚ}

theorem Rounding.le_of_nonneg (h : Rounding rn) (x : ℚ) (hx : 0 ≤ x) : rn x ≤ x + x / 2 ^ 53 := by
  have := (le_abs_self _).trans (h.relErr x)
  rwa [abs_of_nonneg hx, sub_le_iff_le_add'] at this

theorem Rounding.ge_of_nonneg (h : Rounding rn) (x : ℚ) (hx : 0 ≤ x) : x - x / 2 ^ 53 ≤ rn x := by
  have := (le_abs_self _).trans (abs_sub_comm (rn x) x ▸ h.relErr x)
  rwa [abs_of_nonneg hx, sub_le_comm] at this

/-- **`int(raw_frequency)`**: truncating the rounded quotient gives the floor of the exact quotient, as long as
    `(⌊N/ms⌋ + 1) · ms < 2^53` (e.g. readings up to 2^21 Hz with elapsed times up to 2^32 ms; the code only truncates
    readings within `[min scale, max scale]`, at most 1500 by default, with `ms ≤ 600000`). -/
theorem floor_rn (h : Rounding rn) (N ms : ℕ) (hms : 0 < ms)
    (hb : (⌊(N : ℚ) / ms⌋ + 1) * (ms : ℤ) < 2 ^ 53) :
    ⌊rn ((N : ℚ) / ms)⌋ = ⌊(N : ℚ) / ms⌋ := by
  have hmsQ : (0 : ℚ) < ms := Nat.cast_pos.2 hms
  -- the floor is the quotient `k` of the naturals, and N + 1 ≤ (k + 1)·ms < 2^53
  rw [Rat.floor_natCast_div_natCast, ← Int.natCast_div] at hb ⊢
  have hbQ : (((N / ms : ℕ) : ℚ) + 1) * ms < 2 ^ 53 := by exact_mod_cast hb
  have hNQ : (N : ℚ) + 1 ≤ (((N / ms : ℕ) : ℚ) + 1) * ms := by
    exact_mod_cast (Nat.mul_comm .. ▸ Nat.lt_mul_div_succ N hms : N + 1 ≤ (N / ms + 1) * ms)
  rw [Int.floor_eq_iff, Int.cast_natCast]
  constructor
  · have hk : ((N / ms : ℕ) : ℤ) ≤ (↑(N / ms) + 1) * ↑ms :=
      (le_add_of_nonneg_right zero_le_one).trans (le_mul_of_one_le_right (by positivity) (by exact_mod_cast hms))
    have hkx : ((N / ms : ℕ) : ℚ) ≤ (N : ℚ) / ms := (le_div_iff₀ hmsQ).2 (by exact_mod_cast Nat.div_mul_le_self N ms)
    have := h.mono _ _ hkx
    rwa [← Int.cast_natCast (R := ℚ) (N / ms), h.exactInt _ (by rw [Nat.abs_cast]; exact (hk.trans_lt hb).le),
      Int.cast_natCast] at this
  · -- rn x ≤ x + x·ε < (N + 1)/ms ≤ k + 1, the middle step because N·ε < 1
    have hN53 : (N : ℚ) < 2 ^ 53 := ((lt_add_one _).trans_le hNQ).trans hbQ
    have hN53 : (N : ℚ) / 2 ^ 53 < 1 := (div_lt_one (by positivity)).2 hN53
    calc rn ((N : ℚ) / ms) ≤ (N : ℚ) / ms + (N : ℚ) / ms / 2 ^ 53 := h.le_of_nonneg _ (div_nonneg N.cast_nonneg hmsQ.le)
      _ = ((N : ℚ) + (N : ℚ) / 2 ^ 53) / ms := by rw [div_right_comm, ← add_div]
      _ < ((N : ℚ) + 1) / ms := div_lt_div_of_pos_right (add_lt_add_right hN53 _) hmsQ
      _ ≤ _ := (div_le_iff₀ hmsQ).2 hNQ

/-- two non-negative rationals further apart than the rounding error of both stay strictly ordered after rounding -/
theorem rn_lt_of_gap (h : Rounding rn) (x y : ℚ) (hx : 0 ≤ x) (hxy : x < y) (hgap : (x + y) / 2 ^ 53 < y - x) :
    rn x < rn y := by
  -- rn x ≤ x + x·ε < y - y·ε ≤ rn y
  rw [add_div, lt_sub_iff_add_lt, add_comm, ← add_assoc, ← lt_sub_iff_add_lt] at hgap
  exact (h.le_of_nonneg x hx).trans_lt (hgap.trans_le (h.ge_of_nonneg y (hx.trans hxy.le)))

/-- cross-multiplied strict inequality of two fractions of naturals leaves a gap of at least `1 / (b·d)` -/
theorem frac_gap (a b c d : ℕ) (hb : 0 < b) (hd : 0 < d) (hlt : (a : ℚ) / b < (c : ℚ) / d) :
    (1 : ℚ) / ((b : ℚ) * d) ≤ (c : ℚ) / d - (a : ℚ) / b := by
  have hbQ : (0 : ℚ) < b := Nat.cast_pos.2 hb
  have hdQ : (0 : ℚ) < d := Nat.cast_pos.2 hd
  -- as naturals a·d < c·b, so a·d + 1 ≤ c·b
  have hN : (a : ℚ) * d + 1 ≤ c * b := by exact_mod_cast (natCast_div_lt_iff hb hd).1 hlt
  rw [div_sub_div _ _ hdQ.ne' hbQ.ne', mul_comm (d : ℚ) b, mul_comm (d : ℚ) a]
  exact div_le_div_of_nonneg_right (le_sub_iff_add_le'.2 hN) (mul_pos hbQ hdQ).le

/-- two fractions of naturals in strict order stay so after rounding, as soon as the cross product of the SMALLER one is
    below 2^52: their gap is at least `1/(b·d)` (`frac_gap`), the two rounding errors together less (`rn_lt_of_gap`) -/
theorem rn_frac_lt (h : Rounding rn) (a b c d : ℕ) (hb : 0 < b) (hd : 0 < d)
    (hlt : (a : ℚ) / b < (c : ℚ) / d) (hbd : 2 * (a * d) + 1 < 2 ^ 53) : rn ((a : ℚ) / b) < rn ((c : ℚ) / d) := by
  have hbQ : (0 : ℚ) < b := Nat.cast_pos.2 hb
  have hdQ : (0 : ℚ) < d := Nat.cast_pos.2 hd
  have hbdQ : (2 : ℚ) * (a * d) + 1 < 2 ^ 53 := by exact_mod_cast hbd
  have hgap := frac_gap a b c d hb hd hlt
  refine rn_lt_of_gap h _ _ (div_nonneg a.cast_nonneg hbQ.le) hlt ?_
  -- with g = c/d - a/b ≥ 1/(b·d):  2 (a/b) < (2^53 - 1)/(b·d) ≤ (2^53 - 1) g,  that is  a/b + c/d = 2 (a/b) + g < 2^53 g
  have h2 : 2 * ((a : ℚ) / b) < (2 ^ 53 - 1) * (1 / ((b : ℚ) * d)) := by
    rw [sub_one_mul, lt_sub_iff_add_lt, mul_one_div, ← mul_div_mul_right (a : ℚ) b hdQ.ne', ← mul_div_assoc, ← add_div]
    exact div_lt_div_of_pos_right hbdQ (mul_pos hbQ hdQ)
  have h3 := h2.trans_le (mul_le_mul_of_nonneg_left hgap (by norm_num))
  rwa [two_mul, sub_one_mul, lt_sub_iff_add_lt, add_add_sub_cancel, mul_comm, ← div_lt_iff₀ (by positivity)] at h3

theorem rn_frac_le_iff (h : Rounding rn) (a b c d : ℕ) (hb : 0 < b) (hd : 0 < d)
    (hbd : a * d < c * b → 2 * (a * d) + 1 < 2 ^ 53) :
    rn ((c : ℚ) / d) ≤ rn ((a : ℚ) / b) ↔ (c : ℚ) / d ≤ (a : ℚ) / b :=
  ⟨fun hle => not_lt.mp fun hlt => not_lt.mpr hle (rn_frac_lt h a b c d hb hd hlt (hbd ((natCast_div_lt_iff hb hd).1 hlt))),
    h.mono _ _⟩

/-- **`min_timestamp_scale <= raw_frequency`**: the float comparison of the (rounded) threshold `p/q` with the rounded
    quotient agrees with the exact one when `2·p·ms < 2^53` (default: p/q = 7/10, ms ≤ 600000) -/
theorem threshold_le_iff (h : Rounding rn) (p q N ms : ℕ) (hq : 0 < q) (hms : 0 < ms)
    (hb : 2 * p * ms < 2 ^ 53) :
    rn ((p : ℚ) / q) ≤ rn ((N : ℚ) / ms) ↔ (p : ℚ) / q ≤ (N : ℚ) / ms :=
  rn_frac_le_iff h N ms p q hms hq fun hlt => by rw [Nat.mul_assoc] at hb; omega

/-- **`raw_frequency <= max_timestamp_scale`**: same for the upper threshold `p/q`, when `2·p·ms + 1 < 2^53`
    (default: 1500/1) -/
theorem le_threshold_iff (h : Rounding rn) (p q N ms : ℕ) (hq : 0 < q) (hms : 0 < ms)
    (hb : 2 * p * ms + 1 < 2 ^ 53) :
    rn ((N : ℚ) / ms) ≤ rn ((p : ℚ) / q) ↔ (N : ℚ) / ms ≤ (p : ℚ) / q :=
  rn_frac_le_iff h p q N ms hq hms fun _ => by rw [Nat.mul_assoc] at hb; exact hb

/-- **`ts_diff_inv // 1000 < max_timestamp_scale / timestamp_grace`**: an integer against the rounded quotient of a
    representable threshold `p/q` by the integer `g`, when `2·p < 2^53` -/
theorem int_lt_quot_iff (h : Rounding rn) (n p q g : ℕ) (hq : 0 < q) (hg : 0 < g) (hn : (n : ℤ) ≤ 2 ^ 53)
    (hb : 2 * p < 2 ^ 53) :
    rn (n : ℚ) < rn ((p : ℚ) / (q * g : ℕ)) ↔ (n : ℚ) < (p : ℚ) / (q * g : ℕ) := by
  have := rn_frac_le_iff h n 1 p (q * g) Nat.one_pos (Nat.mul_pos hq hg) (fun hlt => by omega)
  rw [Nat.cast_one, div_one] at this
  rw [← not_le, ← not_le, this]

theorem Q.le_natCast (a b c d : ℕ) (hb : 0 < b) (hd : 0 < d) :
    Q.le ⟨(a : ℤ), b⟩ ⟨(c : ℤ), d⟩ = true ↔ (a : ℚ) / b ≤ (c : ℚ) / d := by
  rw [Q.le_mk_natCast, decide_eq_true_eq, natCast_div_le_iff hb hd]

/-- **the float step of `fingerprint_uptime`, against the exact rationals `Q` of the model**: for a forward step of
    `d` ticks in `ms` milliseconds and thresholds `minN/minD`, `maxN/maxD`, the range test evaluated on rounded values
    is the cross-multiplied test the model performs (`Q.le`), and `int()` of the rounded reading is the model's
    `Q.trunc` - for every rounding function, on the domain `2·minN·ms < 2^53`, `2·maxN·ms + 1 < 2^53`,
    `(⌊d·1000/ms⌋ + 1)·ms < 2^53`. -/
theorem float_reading_agrees (h : Rounding rn) (minN minD maxN maxD d ms : ℕ)
    (hminD : 0 < minD) (hmaxD : 0 < maxD) (hms : 0 < ms)
    (hb1 : 2 * minN * ms < 2 ^ 53) (hb2 : 2 * maxN * ms + 1 < 2 ^ 53)
    (hb3 : (⌊((d * 1000 : ℕ) : ℚ) / ms⌋ + 1) * (ms : ℤ) < 2 ^ 53) :
    ((rn ((minN : ℚ) / minD) ≤ rn (((d * 1000 : ℕ) : ℚ) / ms)) ↔
        Q.le ⟨(minN : ℤ), minD⟩ ⟨((d * 1000 : ℕ) : ℤ), ms⟩ = true) ∧
    ((rn (((d * 1000 : ℕ) : ℚ) / ms) ≤ rn ((maxN : ℚ) / maxD)) ↔
        Q.le ⟨((d * 1000 : ℕ) : ℤ), ms⟩ ⟨(maxN : ℤ), maxD⟩ = true) ∧
    ⌊rn (((d * 1000 : ℕ) : ℚ) / ms)⌋ = Q.trunc ⟨((d * 1000 : ℕ) : ℤ), ms⟩ := by
  refine ⟨?_, ?_, ?_⟩
  · rw [threshold_le_iff h minN minD (d * 1000) ms hminD hms hb1, Q.le_natCast _ _ _ _ hminD hms]
  · rw [le_threshold_iff h maxN maxD (d * 1000) ms hmaxD hms hb2, Q.le_natCast _ _ _ _ hms hmaxD]
  · rw [floor_rn h (d * 1000) ms hms hb3, Q.trunc_natCast, Int.natCast_div]
    exact Rat.floor_natCast_div_natCast (d * 1000) ms

end P0f
