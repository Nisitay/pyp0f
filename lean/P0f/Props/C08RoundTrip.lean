import P0f.Lemmas.OptEncode
import P0f.Model.Mtu
/-
  C08 — the round trip: the MTU fingerprint of an impersonated packet is the requested MTU.
  `encodeOpts` is Scapy's option encoding (modelled), `parseOpts` the verified option walk.
-/
namespace P0f

theorem parseOptsGo_mss_of_tail (isSyn : Bool) (rest : List Nat) (st : Opts) (h : rest = [] ∨ rest.head? = some 0) :
    (parseOptsGo isSyn rest st).mss = st.mss := by
  rcases h with rfl | h
  · rw [parseOptsGo_nil]
  · cases rest with
    | nil => cases h
    | cons x t =>
      cases Option.some.inj h
      rw [parseOptsGo_eol, addQuirkIf_mss]; rfl

/-- the MSS the walk reports for a list of encoded options: that of the last MSS entry before the first EOL, or 0 -/
theorem parseOpts_encodeOpts_mss (l : List SOpt) (isSyn : Bool) (hwf : ∀ o ∈ l, o.WF) :
    (parseOpts (encodeOpts l) isSyn).mss = lastMssOf (l.takeWhile (· ≠ .eol)) 0 := by
  obtain ⟨tail, ht, h⟩ := parseOpts_encodeOpts l isSyn hwf
  rw [h, parseOptsGo_mss_of_tail _ _ _ ht, foldl_stepOpt_mss]
  rfl

theorem lastMssOf_replace (l : List SOpt) (v d : Nat) (h : l.any SOpt.isMss = true) :
    lastMssOf (l.map fun o => if o.isMss = true then SOpt.mss v else o) d = v := by
  obtain ⟨o, ho, hm⟩ := List.any_eq_true.mp h
  rcases lastMssOf_mem (l.map fun o => if o.isMss = true then SOpt.mss v else o) d with hl | ⟨_, hno⟩
  · obtain ⟨o', _, ho'⟩ := List.mem_map.mp hl
    split at ho'
    · exact (SOpt.mss.inj ho').symm
    · rename_i hn; rw [ho'] at hn; exact absurd rfl hn
  · exact absurd (List.mem_map.mpr ⟨o, ho, by rw [if_pos hm]⟩) (hno v)

/-- **C08, round trip**: for every base option list of well-formed options in which no EOL precedes the first MSS
    option, every MTU `m` with `hdr < m ≤ hdr + 65535` and either IP version, the option bytes Scapy builds for the
    impersonated packet make the option walk report MSS `m − hdr`; hence `fingerprint_mtu` reports MTU `m`. -/
theorem impMtu_roundtrip (opts : List SOpt) (mtu ver : Nat) (isSyn : Bool)
    (hwf : ∀ o ∈ opts, o.WF) (hv : mtu - mtuHdr ver < 65536)
    (hreach : opts.any SOpt.isMss = false ∨ (opts.takeWhile (· ≠ .eol)).any SOpt.isMss = true) :
    (parseOpts (encodeOpts (impersonateMtu opts mtu ver)) isSyn).mss = mtu - mtuHdr ver := by
  have hwf' : ∀ o ∈ impersonateMtu opts mtu ver, o.WF := by
    intro o ho
    unfold impersonateMtu at ho
    split at ho
    · obtain ⟨o', ho', rfl⟩ := List.mem_map.mp ho
      split
      · exact hv
      · exact hwf o' ho'
    · rcases List.mem_cons.mp ho with rfl | ho
      · exact hv
      · exact hwf o ho
  rw [parseOpts_encodeOpts_mss _ _ hwf']
  unfold impersonateMtu
  by_cases hany : opts.any SOpt.isMss = true
  · -- replaced in place: the entries before the first EOL are the old ones with the MSS values replaced
    have hreach := hreach.resolve_left (by rw [hany]; exact fun h => nomatch h)
    rw [if_pos hany, List.takeWhile_map]
    have : ((fun x => decide (x ≠ SOpt.eol)) ∘ fun o => if o.isMss = true then SOpt.mss (mtu - mtuHdr ver) else o) =
        fun x => decide (x ≠ SOpt.eol) := by
      funext o; cases o <;> rfl
    rw [this]
    exact lastMssOf_replace _ _ _ hreach
  · -- prepended: the new entry comes first and nothing after it changes the value
    rw [if_neg hany, List.takeWhile_cons_of_pos (by rfl)]
    refine lastMssOf_no_mss _ (mtu - mtuHdr ver) (Bool.eq_false_iff.mpr fun h => hany ?_)
    obtain ⟨o, ho, hm⟩ := List.any_eq_true.mp h
    exact List.any_eq_true.mpr ⟨o, List.takeWhile_subset _ ho, hm⟩

example : (parseOpts (encodeOpts (impersonateMtu [.nop, .mss 1400, .ws 7, .eol] 1500 4)) true).mss = 1460 := by
  have := impMtu_roundtrip [.nop, .mss 1400, .ws 7, .eol] 1500 4 true (by simp [SOpt.WF]) (by decide) (by decide)
  simpa [mtuHdr] using this

end P0f
