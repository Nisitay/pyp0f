import P0f.Lemmas.Match
/-
  C01 — a TCP signature matches a packet exactly when the p0f matching rules say so.
-/
namespace P0f

/-- **C01, full strength**: for every signature, every packet signature and every `max_dist`, the
    model of `tcp_signatures_match` returns exactly what the property text demands. -/
theorem tcpMatch_eq_spec (s : Sig) (p : PSig) (d : Int) : tcpMatch s p d = specMatch s p d := by
  rw [tcpMatch_eq_bool, maskedQ_eq]
  unfold specMatch
  -- down the property's decision list: at each test the code's Boolean form takes the same branch
  by_cases hf : fixedOk s p
  case neg => rw [if_neg (mt (fixedB_iff s p).1 hf), if_pos fun h => hf h.1]
  rw [if_pos ((fixedB_iff s p).2 hf)]
  by_cases hz : quirksFuzz s p
  case neg => rw [Option.not_isSome_iff_eq_none.1 (mt (quirkStep_isSome _ _).1 hz), if_pos fun h => hz h.2]
  obtain ⟨mt0, hq⟩ := Option.isSome_iff_exists.1 ((quirkStep_isSome (effQ s p) p.quirks).2 hz)
  rw [hq, if_neg (not_not_intro ⟨hf, hz⟩)]
  dsimp only
  by_cases ht : ttlWithin s p d
  case neg => rw [if_neg (mt (ttlB_iff s p d).1 ht), if_neg fun h => ht h.2, if_pos ht]
  rw [if_pos ((ttlB_iff s p d).2 ht), if_neg (not_not_intro ht)]
  by_cases he : quirksEqual s p
  · rw [if_pos ⟨he, ht⟩, ← hq, (quirkStep_exact _ _).2 he]
  · rw [if_neg fun h => he h.1]
    -- the quirk step answered, and neither `exact` (the quirks differ) nor `fuzzyTtl` (never its answer)
    cases mt0 with
    | exact => exact absurd ((quirkStep_exact _ _).1 hq) he
    | fuzzyTtl => exact absurd hq (quirkStep_ne_fuzzyTtl _ _)
    | fuzzyQuirks => rfl

/-- "the signature matches only if …" -/
theorem match_only_if (s : Sig) (p : PSig) (d : Int) (m : MatchType) (h : tcpMatch s p d = some m) :
    fixedOk s p ∧ quirksFuzz s p :=
  ((specMatch_eq_some_iff s p d m).mp (tcpMatch_eq_spec s p d ▸ h)).1

/-- "Nothing else matches" / "matches … when": the converse -/
theorem match_if (s : Sig) (p : PSig) (d : Int) (h : fixedOk s p ∧ quirksFuzz s p) :
    (tcpMatch s p d).isSome = true := by
  rw [tcpMatch_eq_spec]
  unfold specMatch
  rw [if_neg (not_not_intro h)]
  split
  · rfl
  split <;> rfl

/-- "Such a match is exact when the quirks are equal and 0 ≤ sig TTL − packet TTL ≤ max
    distance" (a `ttl-` signature ignoring the limit), "and fuzzy otherwise" -/
theorem exact_iff (s : Sig) (p : PSig) (d : Int) :
    tcpMatch s p d = some .exact ↔
      fixedOk s p ∧ quirksEqual s p ∧ ttlWithin s p d := by
  rw [tcpMatch_eq_spec, specMatch_eq_some_iff]
  simp only [and_true, reduceCtorEq, and_false, or_false]
  exact ⟨fun h => ⟨h.1.1, h.2⟩, fun h => ⟨⟨h.1, quirksFuzz_of_equal h.2.1⟩, h.2⟩⟩

/-- a version-specific signature only meets a packet of that IP version -/
theorem match_version (s : Sig) (p : PSig) (d : Int) (m : MatchType) (v : Nat)
    (h : tcpMatch s p d = some m) (hv : s.ipVer = some v) : v = p.ipVer :=
  (match_only_if s p d m h).1.ipVer hv

/-- a `ttl-` signature "never matches a larger packet TTL" and "ignores the distance limit" -/
theorem badTtl_never_larger (s : Sig) (p : PSig) (d : Int) (m : MatchType)
    (h : tcpMatch s p d = some m) (hb : s.badTtl = true) : p.ttl ≤ s.ttl ∧ m ≠ .fuzzyTtl :=
  ⟨(match_only_if s p d m h).1.ttl_le hb,
    fun hm => (specMatch_fuzzyTtl_iff (tcpMatch_eq_spec s p d ▸ h)).mp hm (.inl hb)⟩

theorem match_ttl_le (s : Sig) (p : PSig) (d : Int) (m : MatchType) (h : tcpMatch s p d = some m)
    (hm : m ≠ .fuzzyTtl) : p.ttl ≤ s.ttl :=
  have ht : ttlWithin s p d := Classical.not_not.mp (mt (specMatch_fuzzyTtl_iff (tcpMatch_eq_spec s p d ▸ h)).mpr hm)
  ht.elim (match_only_if s p d m h).1.ttl_le (·.1)

/-! Non-vacuity: concrete signatures / packets producing each outcome. -/

private def sigA : Sig :=
  { ipVer := none, olen := 0, ttl := 64, badTtl := false, wtype := .mss, wsize := 4, scale := some 7,
    layout := [2, 4, 8, 1, 3], mss := none, eolPad := 0, payClass := some false,
    quirks := QSet.ofList [.df, .nzId] }
private def pktA : PSig :=
  { ipVer := 4, olen := 0, ttl := 57, win := 5840, layout := [2, 4, 8, 1, 3], mss := 1460, wscale := 7,
    eolPad := 0, hasPayload := false, quirks := QSet.ofList [.df, .nzId], multVal := 4, multMtu := false }

example : tcpMatch sigA pktA 35 = some .exact := by decide +kernel
example : tcpMatch sigA { pktA with ttl := 20 } 35 = some .fuzzyTtl := by decide +kernel
example : tcpMatch sigA { pktA with quirks := QSet.ofList [.df, .nzId, .ecn] } 35 = some .fuzzyQuirks := by decide +kernel
example : tcpMatch sigA { pktA with quirks := QSet.ofList [.df, .nzId, .zeroSeq] } 35 = none := by decide +kernel
example : tcpMatch { sigA with ipVer := some 6 } pktA 35 = none := by decide +kernel
example : tcpMatch { sigA with badTtl := true } { pktA with ttl := 1 } 0 = some .exact := by decide +kernel
example : tcpMatch { sigA with badTtl := true } { pktA with ttl := 65 } 35 = none := by decide +kernel

end P0f
