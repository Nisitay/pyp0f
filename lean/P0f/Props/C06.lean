import P0f.Spec.Http
/-
  C06 — HTTP signature matching and selection follow the p0f rules.
-/
namespace P0f
open P0f.Py

theorem advance_spec (all : List Hdr) (name : Bytes) (i fuel : Nat) (hf : all.length - i ≤ fuel) :
    i ≤ advance all name i fuel ∧
    (∀ k, i ≤ k → k < advance all name i fuel → ∀ ph, all[k]? = some ph → lower name ≠ lower ph.name) ∧
    (∀ ph, all[advance all name i fuel]? = some ph → lower name = lower ph.name) ∧
    (all[advance all name i fuel]? = none → ∀ k, i ≤ k → ∀ ph, all[k]? = some ph → lower name ≠ lower ph.name) := by
  -- the first three clauses go by induction; the last follows from the second, since a position that holds a header is
  -- below one that holds none
  suffices h : _ ∧ _ ∧ _ by
    obtain ⟨hle, hbefore, hat⟩ := h
    exact ⟨hle, hbefore, hat, fun hn k hk ph hph => hbefore k hk
      (Nat.lt_of_lt_of_le (List.getElem?_eq_some_iff.1 hph).1 (List.getElem?_eq_none_iff.1 hn)) ph hph⟩
  induction fuel generalizing i with
  | zero =>
    rw [advance]
    have hget : all[i]? = none := List.getElem?_eq_none (by omega)
    exact ⟨Nat.le_refl i, fun _ h1 h2 => absurd h2 (Nat.not_lt.2 h1), fun ph h => nomatch hget.symm.trans h⟩
  | succ fuel ih =>
    rw [advance]
    cases hget : all[i]? with
    | none => exact ⟨Nat.le_refl i, fun _ h1 h2 => absurd h2 (Nat.not_lt.2 h1), fun ph h => nomatch hget.symm.trans h⟩
    | some ph0 =>
      dsimp only
      by_cases he : lower name = lower ph0.name
      · rw [if_neg (mt bne_iff_ne.1 (not_not_intro he))]
        exact ⟨Nat.le_refl i, fun _ h1 h2 => absurd h2 (Nat.not_lt.2 h1), fun ph h => by rw [hget] at h; cases h; exact he⟩
      · rw [if_pos (bne_iff_ne.2 he)]
        obtain ⟨hle, hbefore, hat⟩ := ih (i + 1) (by omega)
        refine ⟨Nat.le_of_succ_le hle, fun k hk1 hk2 ph hph => ?_, hat⟩
        rcases Nat.eq_or_lt_of_le hk1 with rfl | hlt
        · rw [hget] at hph; cases hph; exact he
        · exact hbefore k hlt hk2 ph hph

theorem advance_le (ph : List Hdr) (name : Bytes) (i fuel : Nat) (hi : i ≤ ph.length) : advance ph name i fuel ≤ ph.length := by
  fun_induction advance ph name i fuel with
  | case1 | case2 | case4 => exact hi  -- no fuel, past the end, name found: stops at `i`
  | case3 i fuel x hg hne ih => exact ih (List.getElem?_eq_some_iff.mp hg).1  -- another name at `i`: on to `i + 1`

theorem FirstAt.unique {all : List Hdr} {h : SigHdr} {i j j' : Nat} (hj : FirstAt all h i j) (hj' : FirstAt all h i j') :
    j = j' := by
  obtain ⟨hle, ⟨p, hp, hn⟩, hmin⟩ := hj
  obtain ⟨hle', ⟨p', hp', hn'⟩, hmin'⟩ := hj'
  rcases Nat.lt_trichotomy j j' with hlt | heq | hgt
  · exact absurd hn (hmin' j hle hlt p hp)
  · exact heq
  · exact absurd hn' (hmin j' hle' hgt p' hp')

/-- **C06, header walk** -/
theorem headersMatchGo_iff (all : List Hdr) (sh : List SigHdr) (i : Nat) :
    headersMatchGo all sh i = true ↔ Walk all sh i := by
  induction sh generalizing i with
  | nil => exact ⟨fun _ => .nil i, fun _ => rfl⟩
  | cons h hs ih =>
    obtain ⟨hle, hbefore, hat, hnowhere⟩ := advance_spec all h.name i (all.length - i) (Nat.le_refl _)
    rw [headersMatchGo]
    generalize advance all h.name i (all.length - i) = j at hle hbefore hat hnowhere ⊢
    cases hget : all[j]? with
    | none =>
      -- the name occurs nowhere from `i` on: only the rule for an absent header applies
      have hw : Walk all (h :: hs) i ↔ h.optional = true ∧ (∀ ph ∈ all, ¬ NameEq h ph) ∧ Walk all hs i := by
        refine ⟨fun w => ?_, fun ⟨ho, hn, hr⟩ => .absent h hs i ho hn hr⟩
        cases w with
        | found _ _ _ j' _ hf => obtain ⟨hj', ⟨p, hp, hn⟩, _⟩ := hf; exact absurd hn (hnowhere hget j' hj' p hp)
        | absent _ _ _ ho hn hr => exact ⟨ho, hn, hr⟩
      rw [hw, ← ih]
      cases h.optional <;> simp [NameEq]
    | some ph =>
      -- `j` is the first position with the name: only the rule for a header found applies, and at `j`
      have hf : FirstAt all h i j := ⟨hle, ⟨ph, hget, hat ph hget⟩, hbefore⟩
      have hw : Walk all (h :: hs) i ↔ (∀ v, h.value = some v → isInfix v ph.value = true) ∧ Walk all hs (j + 1) := by
        refine ⟨fun w => ?_, fun ⟨hv, hr⟩ => .found h hs i j ph hf hget hv hr⟩
        cases w with
        | found _ _ _ j' ph' hf' hg hv hr => cases hf.unique hf'; cases hget.symm.trans hg; exact ⟨hv, hr⟩
        | absent _ _ _ _ hn => exact absurd (hat ph hget) (hn ph (List.mem_of_getElem? hget))
      rw [hw, ← ih]
      cases h.value <;> simp

theorem headersMatch_iff (sh : List SigHdr) (ph : List Hdr) : headersMatch sh ph = true ↔ Walk ph sh 0 :=
  headersMatchGo_iff ph sh 0

/-- **C06, signature match** -/
theorem httpSigMatch_iff (s : HttpSig) (minor : Nat) (ph : List Hdr) :
    httpSigMatch s minor ph = true ↔ HttpSigMatches s minor ph := by
  unfold httpSigMatch HttpSigMatches
  simp only [Bool.and_eq_true, Bool.or_eq_true, Option.isNone_iff_eq_none, beq_iff_eq, List.all_eq_true,
    List.mem_filter, List.contains_iff_mem, List.mem_map, Bool.not_eq_eq_eq_not,
    Bool.not_true, List.any_eq_false, headersMatch_iff, and_imp]
  exact ⟨fun ⟨⟨⟨hv, hreq⟩, habs⟩, hw⟩ => ⟨hv, hreq, fun a ha p hp he => habs a ha ⟨p, hp, he⟩, hw⟩,
    fun ⟨hv, hreq, habs, hw⟩ => ⟨⟨⟨hv, hreq⟩, fun a ha ⟨p, hp, he⟩ => habs a ha p hp he⟩, hw⟩⟩

theorem findHttpLoop_eq (minor : Nat) (ph : List Hdr) (rs : List HttpRec) (g : Option HttpRec) :
    findHttpLoop minor ph rs g =
      match rs.find? (fun r => httpSigMatch r.sig minor ph && !r.generic) with
      | some r => some r
      | none => if g.isNone then rs.find? (fun r => httpSigMatch r.sig minor ph && r.generic) else g := by
  induction rs generalizing g with
  | nil => cases g <;> simp [findHttpLoop]
  | cons r rs ih =>
    simp only [findHttpLoop, List.find?_cons]
    cases hm : httpSigMatch r.sig minor ph
    · simpa using ih g
    · cases hg : r.generic
      · simp
      · simp only [Bool.not_true, Bool.false_eq_true, ↓reduceIte, Bool.and_false, Bool.and_self]
        rw [ih]
        cases g <;> simp

/-- **C06, selection** -/
theorem findHttpMatch_eq_spec (recs : List HttpRec) (minor : Nat) (ph : List Hdr) :
    findHttpMatch recs minor ph = specFindHttp recs minor ph := by
  unfold findHttpMatch specFindHttp
  rw [findHttpLoop_eq]
  rfl

/-- **C06, dishonest**: exactly when the matched record expects a software string, the message
    has a User-Agent (else Server) value, and that value does not contain it -/
theorem dishonest_iff (m : Option HttpRec) (ph : List Hdr) :
    dishonest m ph = true ↔
      ∃ r sw exp, m = some r ∧ softwareOf ph = some sw ∧ r.sig.software = some exp ∧ isInfix exp sw = false := by
  unfold dishonest
  cases m with
  | none => simp
  | some r => cases hs : softwareOf ph <;> cases he : r.sig.software <;> simp [he]

private def hH (n v : String) : Hdr := { name := n.toList, value := v.toList }
private def sH (n : String) (opt : Bool) (v : Option String) : SigHdr := { name := n.toList, optional := opt, value := v.map String.toList }
example : headersMatch [sH "Host" false none, sH "Accept" false (some "*/*"), sH "X" true none]
    [hH "host" "a", hH "User-Agent" "c", hH "ACCEPT" "text, */*"] = true := by decide +kernel
-- the substring must be in the FIRST occurrence at or after the previous match
example : headersMatch [sH "Accept" false (some "html")] [hH "Accept" "*/*", hH "Accept" "text/html"] = false := by decide +kernel
-- an optional header may not occur elsewhere (here: before the previous match)
example : headersMatch [sH "Host" false none, sH "X" true none] [hH "X" "1", hH "Host" "a"] = false := by decide +kernel

end P0f
