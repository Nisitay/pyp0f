import P0f.Model.Effects
import P0f.Props.C11
/-
  C12 — fingerprinting and TCP impersonation never modify the caller's objects.

  The footprint of every call over the explicit store of caller objects (`World`): the statement the
  run-time snapshots are compared against.  Which copies the code makes (copy_packet with
  assemble=True, copy_buffer, fresh layers) is a fact about the code that the model states and the
  snapshot oracle checks on the real objects; the theorems lift the per-call footprint to arbitrary
  call sequences.
-/
namespace P0f

def WCall.isImpMtu : WCall → Bool
  | .impMtu _ _ _ => true
  | _ => false

/-- **C12, per call**: every call except `impersonate_mtu` leaves all caller objects and the database
    exactly as they were -/
theorem call_frame {α : Type} (w : World α) (c : WCall) (h : c.isImpMtu = false) : wStep w c = w := by
  cases c with
  | impMtu => cases h
  | _ => rfl

/-- **C12, impersonate_mtu**: only the option list of the packet it is given changes; every other
    packet, every other field of that packet, every buffer and the database stay the same -/
theorem impMtu_world_frame {α : Type} (w : World α) (i mtu ver : Nat) :
    (wStep w (.impMtu i mtu ver)).bufs = w.bufs ∧ (wStep w (.impMtu i mtu ver)).db = w.db ∧
      (wStep w (.impMtu i mtu ver)).pkts.length = w.pkts.length ∧
      (∀ j, j ≠ i → (wStep w (.impMtu i mtu ver)).pkts[j]? = w.pkts[j]?) ∧
      (∀ p, w.pkts[i]? = some p →
        (wStep w (.impMtu i mtu ver)).pkts[i]? = some { p with opts := impersonateMtu p.opts mtu ver }) := by
  exact ⟨rfl, rfl, List.length_modify .., fun j hj => List.getElem?_modify_ne _ _ (Ne.symm hj),
    fun p hp => (List.getElem?_modify_eq ..).trans (congrArg _ hp)⟩

/-- **C12, call sequences**: over any sequence of calls the database and all buffers are unchanged, and
    a sequence without `impersonate_mtu` changes nothing at all -/
theorem run_frame {α : Type} (w : World α) (cs : List WCall) :
    (wRun w cs).db = w.db ∧ (wRun w cs).bufs = w.bufs ∧
      ((∀ c ∈ cs, c.isImpMtu = false) → wRun w cs = w) := by
  induction cs generalizing w with
  | nil => exact ⟨rfl, rfl, fun _ => rfl⟩
  | cons c cs ih =>
    obtain ⟨h1, h2, h3⟩ := ih (wStep w c)
    have hstep : (wStep w c).db = w.db ∧ (wStep w c).bufs = w.bufs := by cases c <;> exact ⟨rfl, rfl⟩
    exact ⟨h1.trans hstep.1, h2.trans hstep.2, fun hall =>
      (h3 fun c' hc' => hall c' (List.mem_cons_of_mem _ hc')).trans (call_frame w c (hall c List.mem_cons_self))⟩

/-- the database part, in terms of the public call model of C11: no fingerprint, lookup or
    impersonation call alters any record, label or signature -/
theorem db_untouched (db : Db) (c : Call) (h : ∀ f, c ≠ .load f) : (apiStep db c).1 = db :=
  only_load_changes db c h

end P0f
