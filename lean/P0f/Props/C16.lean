import P0f.Model.Effects
import P0f.Model.Api
/-
  C16 — fingerprint results are a pure function of (input, database, options).

  Two layers:
  * inside one call: the multiplier cache threaded through the record loop (`findLoopObj`) gives
    the same answer as the cache-free definitions the C01 / C02 / C17 theorems are about;
  * across calls: the only state is the live database (C11: `history_independent`,
    `repeat_stable`, `only_load_changes`), and every call builds a fresh signature object.
-/
namespace P0f

theorem toPSigWith_mult (k : PktSig) : k.toPSigWith (windowMult k.wIn) = k.toPSig := rfl

/-- the criteria before the window block do not read the multiplier -/
theorem tcpMatchPre_indep (s : Sig) (k : PktSig) (m m' : Int × Bool) (d : Int) :
    tcpMatchPre s (k.toPSigWith m) d = tcpMatchPre s (k.toPSigWith m') d := rfl

/-- `tcp_signatures_match` = the earlier criteria, then the window block -/
theorem tcpMatch_split (s : Sig) (p : PSig) (d : Int) :
    tcpMatch s p d = match tcpMatchPre s p d with
      | none => none
      | some mt => if windowBad s p then none else some mt := by
  unfold tcpMatch tcpMatchPre
  -- the same tests in the same order (the walk of `tcpMatch_eq_bool` in Lemmas/Match); the window block comes last on both sides
  cases s.layout != p.layout
  case true => rfl
  cases s.ipVer.isSome && s.ipVer != some p.ipVer
  case true => rfl
  cases quirkStep (maskedQ s p) p.quirks
  case none => rfl
  cases s.eolPad != p.eolPad || (s.olen : Int) != p.olen
  case true => rfl
  simp only [Bool.false_eq_true, if_false]
  generalize (if s.badTtl = true then _ else _ : Option MatchType) = ts
  cases ts
  case none => rfl
  cases (s.mss.isSome && s.mss != some p.mss) || (s.scale.isSome && s.scale != some p.wscale)
    || (s.payClass.isSome && s.payClass != some p.hasPayload) <;> rfl

/-- literal and `%N` windows do not read the multiplier either -/
theorem windowBad_indep (s : Sig) (k : PktSig) (m m' : Int × Bool)
    (h : (s.wtype == .mss || s.wtype == .mtu) = false) :
    windowBad s (k.toPSigWith m) = windowBad s (k.toPSigWith m') := by
  unfold windowBad
  cases hw : s.wtype
  case mss | mtu => rw [hw] at h; cases h
  all_goals rfl

theorem mult_coherent (o : SigObj) (h : o.Coherent) :
    o.mult.1 = windowMult o.k.wIn ∧ o.mult.2.Coherent ∧ o.mult.2.k = o.k := by
  rcases h with h | h <;> simp [SigObj.mult, h, SigObj.Coherent]

/-- **C16, one comparison**: with a coherent cache the object version answers exactly what the pure
    `tcp_signatures_match` answers, keeps the cache coherent and never changes the fields -/
theorem tcpMatchObj_eq (s : Sig) (o : SigObj) (d : Int) (h : o.Coherent) :
    (tcpMatchObj s o d).1 = tcpMatchPkt s o.k d ∧ (tcpMatchObj s o d).2.Coherent ∧
      (tcpMatchObj s o d).2.k = o.k := by
  unfold tcpMatchObj tcpMatchPkt
  rw [tcpMatch_split, ← toPSigWith_mult, tcpMatchPre_indep s o.k (windowMult o.k.wIn) (0, false) d]
  cases hp : tcpMatchPre s (o.k.toPSigWith (0, false)) d with
  | none => exact ⟨rfl, h, rfl⟩
  | some mt =>
    simp only
    obtain ⟨hm1, hm2, hm3⟩ := mult_coherent o h
    cases hw : s.wtype == .mss || s.wtype == .mtu with
    | true =>
      simp only [↓reduceIte]
      rw [hm1]
      exact ⟨rfl, hm2, hm3⟩
    | false =>
      simp only [Bool.false_eq_true, ↓reduceIte]
      rw [windowBad_indep s o.k (0, false) (windowMult o.k.wIn) hw]
      exact ⟨rfl, h, trivial⟩

/-- **C16, the record loop**: threading the cache through all records gives the pure loop's answer -/
theorem findLoopObj_eq (d : Int) (recs : List Rec) (o : SigObj) (fz gn : Option TcpMatch)
    (h : o.Coherent) :
    (findLoopObj d recs o fz gn).1 = findLoop o.k.toPSig d recs fz gn ∧
      (findLoopObj d recs o fz gn).2.Coherent ∧ (findLoopObj d recs o fz gn).2.k = o.k := by
  induction recs generalizing o fz gn with
  | nil => exact ⟨rfl, h, rfl⟩
  | cons r rs ih =>
    obtain ⟨h1, h2, h3⟩ := tcpMatchObj_eq r.sig o d h
    unfold findLoopObj findLoop
    generalize tcpMatchObj r.sig o d = res at h1 h2 h3
    obtain ⟨m, o'⟩ := res
    -- the object after this record has the same fields, so the induction hypothesis speaks of the same packet
    simp only at h1 h2 h3
    rw [← tcpMatchPkt, ← h1, ← h3]
    cases m with
    | none => exact ih o' fz gn h2
    | some mt =>
      cases mt with
      | exact =>
        simp only
        split
        · exact ⟨rfl, h2, rfl⟩
        · exact ih o' fz _ h2
      | fuzzyTtl => exact ih o' _ gn h2
      | fuzzyQuirks => exact ih o' _ gn h2

/-- **C16, one call**: `fingerprint_tcp` with its per-call signature object and cache equals the
    cache-free `fingerprintTcp` (the function C02's theorems are about) - for every database, packet
    signature and `max_dist`.  No record order, repetition or earlier comparison can change it. -/
theorem fingerprintTcpObj_eq (db : TcpDb) (k : PktSig) (isSyn : Bool) (d : Int) :
    fingerprintTcpObj db k isSyn d = fingerprintTcp db k isSyn d := by
  unfold fingerprintTcpObj fingerprintTcp findTcpMatch
  have := (findLoopObj_eq d (if isSyn then db.req else db.resp) (SigObj.fresh k) none none (Or.inl rfl)).1
  simp only [SigObj.fresh] at this ⊢
  rw [this]

/-- even an object that is matched again after the loop (a result object the caller keeps and
    re-uses) stays coherent: repeated evaluation is stable -/
theorem repeated_match_stable (s s' : Sig) (o : SigObj) (d : Int) (h : o.Coherent) :
    (tcpMatchObj s (tcpMatchObj s' o d).2 d).1 = (tcpMatchObj s o d).1 := by
  obtain ⟨_, h2, h3⟩ := tcpMatchObj_eq s' o d h
  rw [(tcpMatchObj_eq s _ d h2).1, (tcpMatchObj_eq s o d h).1, h3]

/-- across calls: an API fingerprint result is a function of the live database and the input only
    (C11 `history_independent`); restated for the three fingerprint calls -/
theorem fp_pure_of_db (db1 db2 : Db) (h1 h2 : List Call) (c : Call)
    (hdb : (apiRun db1 h1).1 = (apiRun db2 h2).1) :
    (apiStep (apiRun db1 h1).1 c).2 = (apiStep (apiRun db2 h2).1 c).2 := by
  rw [hdb]

end P0f
