import P0f.Model.Http
/-
  C04, HTTP part — `read_payload` on ANY byte string either returns a result or raises PacketError:
  the `line[0]` of `read_headers` (the only operation that is not wrapped in a `try`) can never
  fail, because no line extracted up to the first blank line is empty.
-/
namespace P0f
open P0f.Py

theorem dropCr_eq_nil (l : Bytes) : dropCr l = [] ↔ l = [] ∨ l = ['\r'] := by
  unfold dropCr
  match l with
  | [] => simp
  | [a] => by_cases h : a = '\r' <;> simp [h]
  | a :: b :: t => split <;> simp

def NoBlankStart (d : Bytes) : Prop := d.head? ≠ some '\n' ∧ ∀ t, d ≠ '\r' :: '\n' :: t

theorem extractLines_cases (d : Bytes) :
    (extractLines d = some [] ∧ ¬ NoBlankStart d) ∨ (extractLines d = scanLines d [] [] ∧ NoBlankStart d) := by
  have h1 : (d.take 1 == ['\n']) = true ↔ d.head? = some '\n' := by cases d <;> simp
  have h2 : (d.take 2 == ['\r', '\n']) = true ↔ ∃ t, d = '\r' :: '\n' :: t := by
    match d with
    | [] | [_] => simp
    | _ :: _ :: _ => simp
  unfold extractLines
  by_cases c1 : d.head? = some '\n'
  · rw [if_pos (h1.2 c1)]; exact .inl ⟨rfl, fun hb => hb.1 c1⟩
  rw [if_neg (mt h1.1 c1)]
  by_cases c2 : ∃ t, d = '\r' :: '\n' :: t
  · rw [if_pos (h2.2 c2)]; exact .inl ⟨rfl, fun hb => c2.elim hb.2⟩
  · rw [if_neg (mt h2.1 c2)]; exact .inr ⟨rfl, c1, fun t ht => c2 ⟨t, ht⟩⟩

theorem NoBlankStart.scanLines_lf {d : Bytes} (h : NoBlankStart d) (cur : Bytes) (acc : List Bytes) :
    scanLines ('\n' :: d) cur acc = scanLines d [] (dropCr cur.reverse :: acc) := by
  rw [scanLines]
  · intro tail ht; exact h.1 (by simp [ht])
  · intro tail ht; exact h.2 tail ht

theorem scanLines_char (c : Char) (rest cur : Bytes) (acc : List Bytes) (h : c ≠ '\n') :
    scanLines (c :: rest) cur acc = scanLines rest (c :: cur) acc := by
  rw [scanLines]
  intro h1; exact absurd h1 h

theorem scanLines_chars (l rest cur : Bytes) (acc : List Bytes) (h : '\n' ∉ l) :
    scanLines (l ++ rest) cur acc = scanLines rest (l.reverse ++ cur) acc := by
  induction l generalizing cur with
  | nil => simp
  | cons c t ih =>
    have hc : c ≠ '\n' := fun e => h (by simp [e])
    have ht : '\n' ∉ t := fun e => h (by simp [e])
    simp only [List.cons_append]
    rw [scanLines_char c _ cur acc hc, ih (c :: cur) ht]
    simp

/-- an LF closes a non-empty line: what was read of the line is neither empty nor a lone CR -/
theorem closed_line_ne_nil {d cur : Bytes} (hJ1 : cur = [] → NoBlankStart d) (hJ2 : cur = ['\r'] → d.head? ≠ some '\n')
    (hd : d.head? = some '\n') : dropCr cur.reverse ≠ [] := fun hc => by
  rcases (dropCr_eq_nil _).1 hc with hc | hc
  · exact (hJ1 (List.reverse_eq_nil_iff.1 hc)).1 hd
  · exact hJ2 (List.reverse_eq_iff.1 hc) hd

/-- The invariant of the scan: while the current line is empty the rest does not begin with a blank line (`hJ1`), and
    while it is a lone CR the rest does not begin with LF (`hJ2`). -/
theorem scanLines_nonempty (d cur : Bytes) (acc ls : List Bytes)
    (hJ1 : cur = [] → NoBlankStart d) (hJ2 : cur = ['\r'] → d.head? ≠ some '\n')
    (hacc : ∀ l ∈ acc, l ≠ []) (h : scanLines d cur acc = some ls) : ∀ l ∈ ls, l ≠ [] := by
  fun_induction scanLines d cur acc generalizing ls with
  | case1 => cases h -- data exhausted
  | case2 cur acc t | case3 cur acc t => -- LF LF, LF CR LF: the blank line is found
    cases h
    exact fun l hl => (List.mem_cons.1 (List.mem_reverse.1 hl)).elim (· ▸ closed_line_ne_nil hJ1 hJ2 rfl) (hacc l)
  | case4 rest cur acc hn1 hn2 ih => -- any other LF closes the line
    refine ih ls (fun _ => ⟨fun hh => ?_, hn2⟩) nofun (List.forall_mem_cons.2 ⟨closed_line_ne_nil hJ1 hJ2 rfl, hacc⟩) h
    cases rest with
    | nil => cases hh
    | cons a t => cases hh; exact hn1 t rfl
  | case5 c rest cur acc hc ih => -- a character other than LF joins the line
    refine ih ls nofun (fun hcur hh => ?_) hacc h
    cases hcur
    cases rest with
    | nil => cases hh
    | cons a t => cases hh; exact (hJ1 rfl).2 t rfl

theorem extractLines_nonempty (data : Bytes) (ls : List Bytes) (h : extractLines data = some ls) :
    ∀ l ∈ ls, l ≠ [] := by
  rcases extractLines_cases data with ⟨he, _⟩ | ⟨he, hb⟩
  · cases he.symm.trans h; nofun
  · exact scanLines_nonempty data [] [] ls (fun _ => hb) nofun nofun (he ▸ h)

theorem readHeadersGo_no_indexError (lines : List Bytes) (acc : List Hdr) (h : ∀ l ∈ lines, l ≠ []) :
    readHeadersGo lines acc ≠ .error .indexError := by
  induction lines generalizing acc with
  | nil => nofun
  | cons line rest ih =>
    have hrest := fun acc => ih acc fun l hl => h l (List.mem_cons_of_mem _ hl)
    cases line with
    | nil => exact absurd rfl (h [] List.mem_cons_self)
    | cons c t =>
      rw [readHeadersGo]
      by_cases hc : (c == ' ' || c == '\t') = true
      · rw [if_pos hc]
        cases acc.getLast? with
        | none => nofun
        | some h => exact hrest _
      · rw [if_neg hc]
        obtain ⟨name, found, value⟩ := partition ':' (c :: t)
        dsimp only
        cases found with
        | false => nofun
        | true =>
          cases name.isEmpty with
          | true => nofun
          | false => exact hrest _

/-- **C04, HTTP**: for EVERY byte string, `read_payload` returns a result or raises PacketError -/
theorem readPayload_errors_closed (data : Bytes) :
    (∃ r m hs, readPayload data = .ok r m hs) ∨ readPayload data = .packetError := by
  unfold readPayload
  split
  · exact .inr rfl
  · exact .inr rfl
  · rename_i first rest he
    split
    · exact .inr rfl
    · split
      · exact .inl ⟨_, _, _, rfl⟩
      · exact .inr rfl
      · rename_i hr
        exact absurd hr (readHeadersGo_no_indexError rest [] fun l hl =>
          extractLines_nonempty data _ he l (List.mem_cons_of_mem _ hl))

/-- payloads that used to raise IndexError -/
example : readPayload "\n\n".toList = .packetError := by decide +kernel
example : readPayload "\r\nGET / HTTP/1.1\r\n\r\n".toList = .packetError := by decide +kernel
-- a message that is read: bare LF and CRLF mixed, a continuation line
example : readPayload "GET / HTTP/1.1\nHost: a\n  b\r\n\r\nbody".toList =
    .ok true 1 [{ name := "Host".toList, value := "a\r\n b".toList }] := by decide +kernel

end P0f
