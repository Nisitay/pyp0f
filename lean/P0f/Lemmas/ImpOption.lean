import P0f.Lemmas.SOpt
import P0f.Model.Impersonate
/-
  One entry of the signature's layout under `_impersonate_options`: `impOption` as a function of the kind.
  A non-EOL entry yields exactly one option, `plainOpt`; its MSS / scale / timestamp value is the
  signature's fixed value if there is one, else the base packet's hint if `inRange` accepts it, else the drawn value.
-/
namespace P0f

theorem inRange_eq_some_iff {lo hi : Int} {h : Option Int} {v : Nat} :
    inRange lo hi h = some v ↔ ∃ x, h = some x ∧ lo ≤ x ∧ x ≤ hi ∧ v = x.toNat := by
  cases h with
  | none => simp [inRange]
  | some x =>
    simp only [inRange, Option.some.injEq, exists_eq_left']
    split
    · rename_i hr; simp [hr, eq_comm]
    · rename_i hr; simp; intro h1 h2; exact absurd ⟨h1, h2⟩ hr

theorem inRange_eq_none_iff {lo hi : Int} {h : Option Int} :
    inRange lo hi h = none ↔ ∀ x, h = some x → ¬ (lo ≤ x ∧ x ≤ hi) := by
  cases h with
  | none => simp [inRange]
  | some x => simp only [inRange, Option.some.injEq, forall_eq']; split <;> simp_all

theorem inRange_some_toNat_iff {lo hi h : Int} : inRange lo hi (some h) = some h.toNat ↔ lo ≤ h ∧ h ≤ hi := by
  rw [inRange_eq_some_iff]
  exact ⟨fun ⟨x, hx, h1, h2, _⟩ => by cases hx; exact ⟨h1, h2⟩, fun ⟨h1, h2⟩ => ⟨h, rfl, h1, h2, rfl⟩⟩

theorem inRange_mem {lo hi : Int} {h : Option Int} {v : Nat} (h0 : 0 ≤ lo) (hv : inRange lo hi h = some v) :
    lo ≤ (v : Int) ∧ (v : Int) ≤ hi := by
  obtain ⟨x, _, h1, h2, rfl⟩ := inRange_eq_some_iff.mp hv
  omega

section
variable {fixed : Option Nat} {lo hi : Int} {hint : Option Int} {d : Nat}

theorem getD_inRange_hint {x : Int} (h : lo ≤ x ∧ x ≤ hi) : (inRange lo hi (some x)).getD d = x.toNat := by
  rw [inRange_some_toNat_iff.mpr h]; rfl

theorem getD_inRange_drawn (h : ∀ x, hint = some x → ¬ (lo ≤ x ∧ x ≤ hi)) : (inRange lo hi hint).getD d = d := by
  rw [inRange_eq_none_iff.mpr h]; rfl

theorem getD_inRange_mem (h0 : 0 ≤ lo) (hfix : ∀ m, fixed = some m → lo ≤ (m : Int) ∧ (m : Int) ≤ hi)
    (hd : fixed = none → inRange lo hi hint = none → lo ≤ (d : Int) ∧ (d : Int) ≤ hi) :
    lo ≤ ((fixed.getD ((inRange lo hi hint).getD d) : Nat) : Int) ∧ ((fixed.getD ((inRange lo hi hint).getD d) : Nat) : Int) ≤ hi := by
  cases hf : fixed with
  | some m => exact hfix m hf
  | none =>
    cases hv : inRange lo hi hint with
    | none => exact hd hf hv
    | some v => exact inRange_mem h0 hv

end

/-! ### the one option of a non-EOL entry

  The four value functions are spelt the way the code computes them: `impOptionBody_eq` (LogicOk/ImpOptions) unfolds them
  against the printed `_impersonate_options`. -/

def mssOf (s : Sig) (b : Base) (c : Nat × Nat) : Nat :=
  s.mss.getD ((inRange (mssBounds s).1 (mssBounds s).2 b.mssHint).getD c.1)

def wsOf (s : Sig) (b : Base) (c : Nat × Nat) : Nat :=
  s.scale.getD (if s.quirks .exws then (inRange 15 255 b.wsHint).getD c.1 else (inRange 0 14 b.wsHint).getD c.1)

def ts1Of (s : Sig) (b : Base) (up : Option Int) (c : Nat × Nat) : Nat :=
  if s.quirks .zeroTs1 then 0
  else (inRange 1 4294967295 up).getD ((inRange 1 4294967295 b.ts1Hint).getD c.1)

def ts2Of (s : Sig) (b : Base) (c : Nat × Nat) : Nat :=
  if impTcpType s b == F_SYN then (if !s.quirks .nzTs2 then 0 else (inRange 1 4294967295 b.ts2Hint).getD c.2)
  else (inRange 0 4294967295 b.ts2Hint).getD 0

/-- the admissible scale values: above 14 exactly with `exws` -/
def wsBounds (s : Sig) : Int × Int := if s.quirks .exws then (15, 255) else (0, 14)

theorem wsOf_eq (s : Sig) (b : Base) (c : Nat × Nat) :
    wsOf s b c = s.scale.getD ((inRange (wsBounds s).1 (wsBounds s).2 b.wsHint).getD c.1) := by
  unfold wsOf wsBounds
  cases s.quirks .exws <;> rfl

def plainOpt (s : Sig) (b : Base) (up : Option Int) (k : Nat) (c : Nat × Nat) : SOpt :=
  if k = 2 then .mss (mssOf s b c) else if k = 3 then .ws (wsOf s b c) else if k = 8 then .ts (ts1Of s b up c) (ts2Of s b c)
  else if k = 1 then .nop else if k = 4 then .sackok else if k = 5 then .sack 8 else .raw k 0

theorem impOption_eq (s : Sig) (b : Base) (up : Option Int) (k : Nat) (c : Nat × Nat) :
    impOption s b up k c =
      if k = 0 then (.eol :: List.replicate s.eolPad (if s.quirks .eolNz then .nop else .eol), true)
      else ([plainOpt s b up k c], false) := by
  unfold impOption plainOpt mssOf wsOf ts1Of ts2Of
  simp only [beq_iff_eq]
  by_cases h2 : k = 2
  · subst h2
    -- eta for the pair, so that the code's `let (lo, hi) := mssBounds s` reduces
    rw [show mssBounds s = ((mssBounds s).1, (mssBounds s).2) from rfl]
    cases s.mss <;> cases inRange (mssBounds s).1 (mssBounds s).2 b.mssHint <;> rfl
  · by_cases h3 : k = 3
    · subst h3
      cases s.quirks .exws
      · cases s.scale <;> cases inRange 0 14 b.wsHint <;> rfl
      · cases s.scale <;> cases inRange 15 255 b.wsHint <;> rfl
    · by_cases h8 : k = 8
      · subst h8
        cases inRange 1 4294967295 up <;> cases inRange 1 4294967295 b.ts1Hint <;>
          cases inRange 1 4294967295 b.ts2Hint <;> cases inRange 0 4294967295 b.ts2Hint <;> rfl
      · simp only [h2, h3, h8, ↓reduceIte]
        by_cases h1 : k = 1
        · subst h1; rfl
        · by_cases h4 : k = 4
          · subst h4; rfl
          · by_cases h0 : k = 0
            · subst h0; rfl
            · simp only [h1, h4, h0, ↓reduceIte, apply_ite (fun o : SOpt => ([o], false))]

theorem impOption_singleton {s : Sig} {b : Base} {up : Option Int} {k : Nat} {c : Nat × Nat} {o : SOpt}
    (h : impOption s b up k c = ([o], false)) : k ≠ 0 ∧ o = plainOpt s b up k c := by
  rw [impOption_eq] at h
  split at h
  · exact Bool.noConfusion (Prod.mk.inj h).2
  · exact ⟨‹_›, (List.head_eq_of_cons_eq (Prod.mk.inj h).1).symm⟩

/-- a layout entry before the EOL: nop, mss, ws, sok, ts, sack or a kind unknown to p0f -/
def PlainKind (k : Nat) : Prop :=
  k = 1 ∨ k = 2 ∨ k = 3 ∨ k = 4 ∨ k = 8 ∨ k = 5 ∨ (k ≠ 0 ∧ k ≠ 1 ∧ k ≠ 2 ∧ k ≠ 3 ∧ k ≠ 4 ∧ k ≠ 5 ∧ k ≠ 8)

theorem plainKind_of_ne_zero (k : Nat) (h : k ≠ 0) : PlainKind k := by
  unfold PlainKind; omega

theorem impOption_mss_eq (s : Sig) (b : Base) (up : Option Int) (c : Nat × Nat) :
    impOption s b up 2 c = ([.mss (mssOf s b c)], false) := impOption_eq s b up 2 c

theorem impOption_ws_eq (s : Sig) (b : Base) (up : Option Int) (c : Nat × Nat) :
    impOption s b up 3 c = ([.ws (wsOf s b c)], false) := impOption_eq s b up 3 c

theorem impOption_ts_eq (s : Sig) (b : Base) (up : Option Int) (c : Nat × Nat) :
    impOption s b up 8 c = ([.ts (ts1Of s b up c) (ts2Of s b c)], false) := impOption_eq s b up 8 c

theorem plainOpt_raw (s : Sig) (b : Base) (up : Option Int) {k : Nat} (c : Nat × Nat)
    (h : k ≠ 0 ∧ k ≠ 1 ∧ k ≠ 2 ∧ k ≠ 3 ∧ k ≠ 4 ∧ k ≠ 5 ∧ k ≠ 8) : plainOpt s b up k c = .raw k 0 := by
  obtain ⟨_, k1, k2, k3, k4, k5, k8⟩ := h
  unfold plainOpt
  rw [if_neg k2, if_neg k3, if_neg k8, if_neg k1, if_neg k4, if_neg k5]

theorem plainOpt_kind (s : Sig) (b : Base) (up : Option Int) {k : Nat} (c : Nat × Nat) (hk : k ≠ 0) :
    (plainOpt s b up k c).kind = k ∧ plainOpt s b up k c ≠ .eol := by
  rcases plainKind_of_ne_zero k hk with rfl | rfl | rfl | rfl | rfl | rfl | h
  iterate 6 exact ⟨rfl, SOpt.noConfusion⟩
  rw [plainOpt_raw s b up c h]
  exact ⟨rfl, SOpt.noConfusion⟩

theorem plainOpt_wireLen (s : Sig) (b : Base) (up : Option Int) {k : Nat} (c : Nat × Nat) (hk : k ≠ 0) :
    (plainOpt s b up k c).wireLen = (if k = 1 then 1 else if k = 2 then 4 else if k = 3 then 3 else if k = 4 then 2
      else if k = 5 ∨ k = 8 then 10 else 2) := by
  rcases plainKind_of_ne_zero k hk with rfl | rfl | rfl | rfl | rfl | rfl | h
  iterate 6 rfl
  rw [plainOpt_raw s b up c h]
  obtain ⟨_, k1, k2, k3, k4, k5, k8⟩ := h
  rw [if_neg k1, if_neg k2, if_neg k3, if_neg k4, if_neg (not_or.mpr ⟨k5, k8⟩)]
  rfl

theorem mssBounds_range (s : Sig) : 0 ≤ (mssBounds s).1 ∧ (mssBounds s).2 ≤ 65535 := by
  unfold mssBounds
  split
  · exact ⟨by simp, Int.ediv_le_self _ (by decide)⟩
  · simp

theorem mssOf_mem (s : Sig) (b : Base) (up : Option Int) (c : Nat × Nat)
    (hfix : ∀ m, s.mss = some m → (mssBounds s).1 ≤ (m : Int) ∧ (m : Int) ≤ (mssBounds s).2)
    (hok : optChoiceOk s b up 2 c = true) :
    (mssBounds s).1 ≤ (mssOf s b c : Int) ∧ (mssOf s b c : Int) ≤ (mssBounds s).2 := by
  refine getD_inRange_mem (mssBounds_range s).1 hfix fun hs hn => ?_
  simp only [optChoiceOk, beq_self_eq_true, ↓reduceIte, hs] at hok
  rw [show mssBounds s = ((mssBounds s).1, (mssBounds s).2) from rfl] at hok  -- eta, as in `impOption_eq`
  simpa [hn] using hok

theorem wsOf_mem (s : Sig) (b : Base) (up : Option Int) (c : Nat × Nat)
    (hfix : ∀ w, s.scale = some w → (wsBounds s).1 ≤ (w : Int) ∧ (w : Int) ≤ (wsBounds s).2)
    (hok : optChoiceOk s b up 3 c = true) :
    (wsBounds s).1 ≤ (wsOf s b c : Int) ∧ (wsOf s b c : Int) ≤ (wsBounds s).2 := by
  rw [wsOf_eq]
  refine getD_inRange_mem (by unfold wsBounds; split <;> decide) hfix fun hs hn => ?_
  simp only [optChoiceOk, Nat.reduceBEq, Bool.false_eq_true, ↓reduceIte, beq_self_eq_true, hs] at hok
  unfold wsBounds at hn ⊢
  -- the hint is rejected (`hn`), so `optChoiceOk` has tested the drawn value, against the bounds of the same branch
  cases he : s.quirks .exws with
  | false =>
    simp only [he, Bool.false_eq_true, ↓reduceIte] at hn hok ⊢
    rw [hn, Option.isSome_none, Bool.false_or, decide_eq_true_eq] at hok
    omega
  | true =>
    simp only [he, ↓reduceIte] at hn hok ⊢
    rw [hn, Option.isSome_none, Bool.false_or, decide_eq_true_eq] at hok
    omega

theorem ts1Of_spec (s : Sig) (b : Base) (up : Option Int) (c : Nat × Nat) (hok : optChoiceOk s b up 8 c = true) :
    ts1Of s b up c < 4294967296 ∧ (ts1Of s b up c == 0) = s.quirks .zeroTs1 := by
  unfold ts1Of
  cases hz : s.quirks .zeroTs1 with
  | true => simp
  | false =>
    simp only [optChoiceOk, Nat.reduceBEq, Bool.false_eq_true, ↓reduceIte, beq_self_eq_true, hz, Bool.false_or,
      Bool.and_eq_true, Bool.or_eq_true, decide_eq_true_eq] at hok
    have := getD_inRange_mem (fixed := inRange 1 4294967295 up) (lo := 1) (hi := 4294967295) (hint := b.ts1Hint) (d := c.1) (by decide)
      (fun m hm => inRange_mem (by decide) hm) fun hu hn => by
        have : 1 ≤ c.1 ∧ c.1 ≤ 4294967295 := by simpa [hu, hn] using hok.1
        omega
    simp only [Bool.false_eq_true, ↓reduceIte, beq_eq_false_iff_ne]
    omega

theorem ts2Of_spec (s : Sig) (b : Base) (up : Option Int) (c : Nat × Nat) (hok : optChoiceOk s b up 8 c = true) :
    ts2Of s b c < 4294967296 ∧ (impTcpType s b = F_SYN → (ts2Of s b c != 0) = s.quirks .nzTs2) := by
  unfold ts2Of
  by_cases hsyn : impTcpType s b = F_SYN
  · simp only [hsyn, beq_self_eq_true, ↓reduceIte, forall_const]
    cases hq : s.quirks .nzTs2 with
    | false => simp
    | true =>
      simp only [optChoiceOk, Nat.reduceBEq, Bool.false_eq_true, ↓reduceIte, beq_self_eq_true, hsyn, hq, Bool.not_true,
        Bool.false_or, Bool.and_eq_true, Bool.or_eq_true, decide_eq_true_eq] at hok
      have := getD_inRange_mem (fixed := none) (lo := 1) (hi := 4294967295) (hint := b.ts2Hint) (d := c.2) (by decide)
        (fun _ h => nomatch h) fun _ hn => by
          have : 1 ≤ c.2 ∧ c.2 ≤ 4294967295 := by simpa [hn] using hok.2
          omega
      simp only [Bool.not_true, Bool.false_eq_true, ↓reduceIte, bne_iff_ne, Option.getD_none] at this ⊢
      omega
  · have := getD_inRange_mem (fixed := none) (lo := 0) (hi := 4294967295) (hint := b.ts2Hint) (d := 0) (by decide)
      (fun _ h => nomatch h) fun _ _ => by decide
    simp only [beq_iff_eq, hsyn, ↓reduceIte, false_implies, and_true, Option.getD_none] at this ⊢
    omega

theorem plainOpt_wf (s : Sig) (b : Base) (up : Option Int) {k : Nat} (c : Nat × Nat) (hk : k ≠ 0)
    (hm : ∀ m, s.mss = some m → m < 65536) (hw : ∀ w, s.scale = some w → w < 256)
    (hok : optChoiceOk s b up k c = true) : (plainOpt s b up k c).WF := by
  rcases plainKind_of_ne_zero k hk with rfl | rfl | rfl | rfl | rfl | rfl | h
  · trivial
  · show mssOf s b c < 65536
    cases hs : s.mss with
    | some m => rw [mssOf, hs]; exact hm m hs
    | none =>
      have := mssOf_mem s b up c (fun _ h => nomatch hs.symm.trans h) hok
      have := mssBounds_range s
      omega
  · show wsOf s b c < 256
    cases hs : s.scale with
    | some w => rw [wsOf, hs]; exact hw w hs
    | none =>
      have := wsOf_mem s b up c (fun _ h => nomatch hs.symm.trans h) hok
      unfold wsBounds at this
      split at this <;> omega
  · trivial
  · exact ⟨(ts1Of_spec s b up c hok).1, (ts2Of_spec s b up c hok).1⟩
  · exact ⟨Nat.le_refl 8, by decide⟩
  · rw [plainOpt_raw s b up c h]
    obtain ⟨k0, k1, k2, k3, k4, k5, k8⟩ := h
    exact ⟨k0, k1, k2, k3, k4, k5, k8, Nat.zero_le _⟩

theorem mem_impOptionsGo (s : Sig) (b : Base) (up : Option Int) (ks : List Nat) (cs : List (Nat × Nat)) (o : SOpt)
    (h : o ∈ impOptionsGo s b up ks cs) : ∃ k ∈ ks, ∃ c, o ∈ (impOption s b up k c).1 := by
  induction ks generalizing cs with
  | nil => simp [impOptionsGo] at h
  | cons k ks ih =>
    simp only [impOptionsGo] at h
    split at h
    · exact ⟨k, by simp, _, h⟩
    · rw [List.mem_append] at h
      rcases h with h | h
      · exact ⟨k, by simp, _, h⟩
      · obtain ⟨k', hk', c', hc'⟩ := ih _ h
        exact ⟨k', by simp [hk'], c', hc'⟩

theorem impOptionsGo_cons (s : Sig) (b : Base) (up : Option Int) {k : Nat} (ks : List Nat) (cs : List (Nat × Nat)) (hk : k ≠ 0) :
    impOptionsGo s b up (k :: ks) cs = plainOpt s b up k (cs.headD (0, 0)) :: impOptionsGo s b up ks cs.tail := by
  rw [impOptionsGo, impOption_eq, if_neg hk]
  rfl

theorem impOptionsGo_split (s : Sig) (b : Base) (up : Option Int) (L : List Nat) (cs : List (Nat × Nat)) :
    impOptionsGo s b up L cs = impOptionsGo s b up (L.takeWhile (· != 0)) cs ++
      if L.contains 0 then .eol :: List.replicate s.eolPad (if s.quirks .eolNz then .nop else .eol) else [] := by
  induction L generalizing cs with
  | nil => rfl
  | cons k ks ih =>
    by_cases hk : k = 0
    · subst hk; rfl
    · rw [List.takeWhile_cons_of_pos (p := (· != 0)) (bne_iff_ne.mpr hk), impOptionsGo_cons s b up _ cs hk,
        impOptionsGo_cons s b up _ cs hk, ih, List.contains_cons, beq_eq_false_iff_ne.mpr (Ne.symm hk), Bool.false_or]
      rfl

theorem impOptionsGo_of_kind (s : Sig) (b : Base) (up : Option Int) {L : List Nat} (cs : List (Nat × Nat))
    (hL : ∀ k ∈ L, k ≠ 0) {k : Nat} (hk : k ∈ L) : ∃ c', plainOpt s b up k c' ∈ impOptionsGo s b up L cs := by
  induction L generalizing cs with
  | nil => cases hk
  | cons a t ih =>
    rw [impOptionsGo_cons s b up t cs (hL a List.mem_cons_self)]
    rcases List.mem_cons.mp hk with rfl | h
    · exact ⟨_, List.mem_cons_self⟩
    · exact (ih cs.tail (fun x hx => hL x (List.mem_cons_of_mem _ hx)) h).imp fun _ => List.mem_cons_of_mem _

end P0f
