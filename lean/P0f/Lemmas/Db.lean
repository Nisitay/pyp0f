import P0f.Spec.Db
/-
  The database operations and the line loop of `_parse_file`, for C09, C10, C11, C15, LogicOk/ParseFile and
  LogicOk/GetRandom: the code's (kind, direction) calls through `Section` (`createKD_section`, `addKD_section`),
  what `Db.add` / `Db.iter` can answer, `Db.len` under `set` / `create`; the line loop as a function of the line
  kinds (`stepKind`, inverted by `Step`), its invariant rule (`parseGo_rule`), the invariant tying the parser state to the
  lines read so far (`Inv`), contributions applied to a database (`applyEv`), and `Db.Labelled`: every record filed carries
  a label.
-/
namespace P0f
open P0f.Py

theorem secOf_section (s : Section) : secOf s.kind s.dir = some s := by cases s <;> rfl

theorem createKD_section (db : Db) (s : Section) : Db.createKD db s.kind s.dir = db.create s := by
  simp [Db.createKD, secOf_section]

theorem addKD_section (db : Db) (s : Section) (r : DbRec) : Db.addKD db s.kind s.dir r = (db.add s r).toOption := by
  simp only [Db.addKD, secOf_section]
  cases db.add s r <;> rfl

theorem Db.add_error {db : Db} {s : Section} {r : DbRec} {e : LoadErr} (h : db.add s r = .error e) : e = .database := by
  unfold Db.add at h
  split at h <;> simp_all

theorem Db.iter_ok {db : Db} {k : RecKind} {d : Option Dir} {l : List DbRec} (h : db.iter k d = .ok l) : ∃ s, db s = some l := by
  unfold Db.iter at h
  split at h
  · cases h
  · split at h
    · cases h; exact ⟨_, ‹_›⟩
    · cases h

theorem Db.iter_error {db : Db} {k : RecKind} {d : Option Dir} {e : LoadErr} (h : db.iter k d = .error e) : e = .database := by
  unfold Db.iter at h
  split at h
  · cases h; rfl
  · split at h <;> cases h
    rfl

theorem Db.iter_empty (k : RecKind) (d : Option Dir) : Db.empty.iter k d = .error .database := by
  unfold Db.iter Db.empty
  cases secOf k d <;> rfl

theorem Db.len_set (db : Db) (s : Section) (v : Option (List DbRec)) :
    (db.set s v).len + ((db s).getD []).length = db.len + (v.getD []).length := by
  unfold Db.len Section.all
  cases s <;> simp +arith [Db.set]

theorem Db.len_create (db : Db) (s : Section) : (db.create s).len = db.len := by
  unfold Db.create
  split
  · rfl
  · rename_i h; simpa [h] using Db.len_set db s (some [])

theorem Db.len_set_append (db : Db) (s : Section) (l : List DbRec) (r : DbRec) (h : db s = some l) :
    (db.set s (some (l ++ [r]))).len = db.len + 1 := by
  have := Db.len_set db s (some (l ++ [r]))
  simp [h] at this
  omega

/- The branches of `stepKind` in the order written, which is how `fun_cases stepKind` numbers them:
   1 skipped line, 2 unknown header, 3 header, 4 `sig` unparsable, 5 `sig` filed, 6 `sig` parsed but `add` fails, 7 `sig` misplaced,
   8 `label` outside a section, 9 `label` unparsable, 10 `label` read, 11 `label` misplaced, 12 `sys` read, 13 `sys` misplaced,
   14 any other line.  Five answer `ok` (1, 3, 5, 10, 12), 6 hands on the error of `add`, the others raise `ParsingError n`. -/
/-- one loop iteration as a function of the line's kind -/
def stepKind (st : PSt) (n : Nat) : LineKind → Except LoadErr PSt
  | .skip => .ok st
  | .header none => .error (.parsing n)
  | .header (some s) => .ok { st with db := st.db.create s, state := .needLabel, sec := some s }
  | .sig value =>
    match st.state, st.sec with
    | .needSig, some s =>
      match parseSigFor s.kind value with
      | none => .error (.parsing n)
      | some sg =>
        match st.db.add s { label := st.label, sig := sg, raw := value, line := n } with
        | .ok db => .ok { st with db := db }
        | .error e => .error e
    | _, _ => .error (.parsing n)
  | .label value =>
    match st.sec with
    | none => .error (.parsing n)
    | some s =>
      if st.state == .needLabel || st.state == .needSig then
        match parseLabelFor s.kind value with
        | none => .error (.parsing n)
        | some lb =>
          .ok { st with label := some lb, state := if lb.isUserApp then .needSys else .needSig }
      else .error (.parsing n)
  | .sys value =>
    match st.state, st.label with
    | .needSys, some (.os l _) =>
      .ok { st with label := some (.os l (split ',' value)), state := .needSig }
    | _, _ => .error (.parsing n)
  | .other => .error (.parsing n)

theorem head?_none_of_isEmpty {l : List Char} (h : l.isEmpty = true) : l.head? = none := by
  cases l <;> simp_all

theorem stepLine_eq (st : PSt) (n : Nat) (raw : List Char) :
    stepLine st n raw = stepKind st n (classify raw) := by
  unfold stepLine classify
  generalize strip raw = line
  cases line with
  | nil => rfl
  | cons c t =>
    -- the same chain of tests on both sides: `stepKind` moves into the branches, which then agree by computation
    simp only [List.isEmpty_cons, List.head?_cons, Bool.false_eq_true, ↓reduceIte, apply_ite (stepKind st n)]
    cases parseSection (c :: t) <;> rfl

/-- the successful transitions of the loop body, one constructor per line kind that can be accepted -/
inductive Step (st : PSt) (n : Nat) : LineKind → PSt → Prop
  | skip : Step st n .skip st
  | header (s : Section) :
      Step st n (.header (some s)) { st with db := st.db.create s, state := .needLabel, sec := some s }
  | sig (v : List Char) (s : Section) (sg : DbSig) (l : List DbRec) :
      st.state = .needSig → st.sec = some s → parseSigFor s.kind v = some sg → st.db s = some l →
      Step st n (.sig v) { st with db := st.db.set s (some (l ++ [{ label := st.label, sig := sg, raw := v, line := n }])) }
  | label (v : List Char) (s : Section) (lb : DbLabel) :
      st.sec = some s → (st.state = .needLabel ∨ st.state = .needSig) → parseLabelFor s.kind v = some lb →
      Step st n (.label v) { st with label := some lb, state := if lb.isUserApp then .needSys else .needSig }
  | sys (v : List Char) (l : LabelM) (o : List (List Char)) :
      st.state = .needSys → st.label = some (.os l o) →
      Step st n (.sys v) { st with label := some (.os l (split ',' v)), state := .needSig }

theorem stepKind_step {st st' : PSt} {n : Nat} {k : LineKind} (h : stepKind st n k = .ok st') : Step st n k st' := by
  revert h
  fun_cases stepKind st n k -- case numbers: see `stepKind`
  case case1 => rintro ⟨⟩; exact .skip
  case case3 s => rintro ⟨⟩; exact .header s
  case case5 v s hsec hstate sg hsg db hadd =>
    rintro ⟨⟩
    unfold Db.add at hadd
    cases hl : st.db s with
    | none => rw [hl] at hadd; cases hadd
    | some l => rw [hl] at hadd; cases hadd; exact .sig v s sg l hstate hsec hsg hl
  case case10 v s hsec hstate lb hlb => rintro ⟨⟩; exact .label v s lb hsec (by simpa using hstate) hlb
  case case12 v l o hlabel hstate => rintro ⟨⟩; exact .sys v l o hstate hlabel
  all_goals nofun

abbrev Ev := Section × Option DbRec

/-- `dbOfEvents` started from a given database -/
def applyEv (db : Db) (ev : List Ev) : Db := fun s =>
  let e := ev.filter (·.1 = s)
  match db s with
  | some l => some (l ++ e.filterMap (·.2))
  | none => if e.isEmpty then none else some (e.filterMap (·.2))

theorem applyEv_nil (db : Db) : applyEv db [] = db := by
  funext s; unfold applyEv; cases db s <;> simp

theorem applyEv_empty (ev : List Ev) : applyEv Db.empty ev = dbOfEvents ev := rfl

theorem applyEv_append (db : Db) (a b : List Ev) : applyEv (applyEv db a) b = applyEv db (a ++ b) := by
  funext s
  simp only [applyEv, List.filter_append, List.filterMap_append]
  cases db s with
  | some l => simp only [List.append_assoc]
  | none =>
    cases a.filter (·.1 = s) with
    | nil => rfl
    | cons x t => simp only [List.isEmpty_cons, Bool.false_eq_true, ↓reduceIte, List.cons_append]

theorem applyEv_single (db : Db) (s : Section) (o : Option DbRec) :
    applyEv db [(s, o)] = db.set s (some ((db s).getD [] ++ o.toList)) := by
  funext t
  unfold applyEv Db.set
  by_cases hts : t = s
  · subst hts; cases db t <;> cases o <;> simp
  · cases db t <;> simp [hts, Ne.symm hts]

theorem create_eq_applyEv (db : Db) (s : Section) : db.create s = applyEv db [(s, none)] := by
  rw [applyEv_single, Db.create]
  cases hs : db s with
  | none => rfl
  | some l => funext t; by_cases hts : t = s <;> simp [Db.set, hts, hs]

/-- what one line contributes, given the lines before it -/
def evOf (k : LineKind) (pre : List LineKind) : List Ev :=
  match k with
  | .header (some s) => [(s, none)]
  | .sig v => ((recordAt pre v).map fun sr => (sr.1, some sr.2)).toList
  | _ => []

theorem specEvents_cons (k : LineKind) (rest pre : List LineKind) :
    specEvents (k :: rest) pre = evOf k pre ++ specEvents rest (k :: pre) := by
  cases k with
  | header s => cases s <;> simp [specEvents, evOf]
  | _ => simp [specEvents, evOf]

/-- invariant of the line loop: section and label of the state are those of the lines read, and the current section has its list -/
structure Inv (st : PSt) (pre : List LineKind) : Prop where
  sec : st.sec = lastSection pre
  label : st.label = lastLabel pre
  created : ∀ s, st.sec = some s → ∃ l, st.db s = some l

theorem Inv.init : Inv PSt.init [] := ⟨rfl, rfl, by intro s h; simp [PSt.init] at h⟩

theorem stepKind_inv {st st' : PSt} {pre : List LineKind} {k : LineKind}
    (hinv : Inv st pre) (h : stepKind st (pre.length + 1) k = .ok st') :
    Inv st' (k :: pre) ∧ st'.db = applyEv st.db (evOf k pre) := by
  obtain ⟨hsec, hlab, hcr⟩ := hinv
  cases stepKind_step h with
  | skip => exact ⟨⟨hsec, hlab, hcr⟩, (applyEv_nil _).symm⟩
  | header s =>
    refine ⟨⟨rfl, hlab, fun t ht => ?_⟩, create_eq_applyEv _ _⟩
    cases ht
    exact ⟨_, by rw [create_eq_applyEv, applyEv_single]; exact if_pos rfl⟩
  | sig v s sg l hstate hs hsg hl =>
    refine ⟨⟨hsec, hlab, fun t ht => ?_⟩, ?_⟩
    · cases hs.symm.trans ht; exact ⟨_, if_pos rfl⟩
    · simp only [evOf, recordAt, ← hsec, hs, hsg, ← hlab, Option.map_some, Option.toList_some]
      rw [applyEv_single, hl]
      rfl
  | label v s lb hs hstate hlb =>
    exact ⟨⟨hsec, by simp [lastLabel, ← hsec, hs, hlb], hcr⟩, (applyEv_nil _).symm⟩
  | sys v l o hstate hl =>
    exact ⟨⟨hsec, by simp [lastLabel, ← hlab, hl, DbLabel.withSys], hcr⟩, (applyEv_nil _).symm⟩

theorem parseGo_cons_ok {l : List Char} {ls : List (List Char)} {n : Nat} {st st' : PSt} :
    parseGo (l :: ls) n st = .ok st' ↔ ∃ st1, stepLine st n l = .ok st1 ∧ parseGo ls (n + 1) st1 = .ok st' := by
  rw [parseGo]; cases stepLine st n l <;> simp

/-- the invariant rule of the line loop: what holds of a state and the kinds of the lines read (latest first), and is kept
    by every accepted line, holds when the loop has run -/
theorem parseGo_rule {P : PSt → List LineKind → Prop}
    (hstep : ∀ {st st' pre k}, P st pre → stepKind st (pre.length + 1) k = .ok st' → P st' (k :: pre))
    (ls : List (List Char)) {st st' : PSt} {pre : List LineKind} (h0 : P st pre)
    (h : parseGo ls (pre.length + 1) st = .ok st') : P st' ((ls.map classify).reverse ++ pre) := by
  induction ls generalizing st pre with
  | nil => cases h; exact h0
  | cons l ls ih =>
    obtain ⟨st1, hs, h⟩ := parseGo_cons_ok.1 h
    simpa using ih (hstep h0 (stepLine_eq .. ▸ hs)) h

theorem parseGo_inv (ls : List (List Char)) (st st' : PSt) (pre : List LineKind)
    (hinv : Inv st pre) (h : parseGo ls (pre.length + 1) st = .ok st') : Inv st' ((ls.map classify).reverse ++ pre) :=
  parseGo_rule (fun hi hk => (stepKind_inv hi hk).1) ls hinv h

theorem parseGo_spec (ls : List (List Char)) (st st' : PSt) (pre : List LineKind)
    (hinv : Inv st pre) (h : parseGo ls (pre.length + 1) st = .ok st') :
    st'.db = applyEv st.db (specEvents (ls.map classify) pre) := by
  -- no instance of `parseGo_rule`: the claim ties the store at the end to the one at the start, through the lines in between
  induction ls generalizing st pre with
  | nil => cases h; exact (applyEv_nil _).symm
  | cons l ls ih =>
    obtain ⟨st1, hs, h⟩ := parseGo_cons_ok.1 h
    obtain ⟨hinv1, hdb1⟩ := stepKind_inv hinv (stepLine_eq .. ▸ hs)
    rw [ih st1 (classify l :: pre) hinv1 h, hdb1, List.map_cons, specEvents_cons, applyEv_append]

theorem parseLines_ok {ls : List (List Char)} {db : Db} (h : parseLines ls = .ok db) :
    ∃ st, parseGo ls 1 PSt.init = .ok st ∧ st.db = db := by
  unfold parseLines at h
  split at h
  · exact ⟨_, ‹_›, Except.ok.inj h⟩
  · cases h

theorem dbLoad_error {cur : Db} {f : FileArg} {e : LoadErr} (h : (dbLoad cur f).1 = .error e) : (dbLoad cur f).2 = cur := by
  unfold dbLoad at h ⊢
  cases hp : parseFile f with
  | ok d => rw [hp] at h; cases h
  | error e' => rfl

/-- every record of the store carries a label (what the parser guarantees: a `sig` line is only accepted after a `label` line) -/
def Db.Labelled (db : Db) : Prop := ∀ s l r, db s = some l → r ∈ l → r.label ≠ none

theorem Db.Labelled.set {db : Db} (hd : db.Labelled) (s : Section) {l : List DbRec} (hl : ∀ r ∈ l, r.label ≠ none) :
    (db.set s (some l)).Labelled := by
  intro t l' r ht hr
  unfold Db.set at ht
  split at ht
  · cases ht; exact hl r hr
  · exact hd t l' r ht hr

theorem Db.Labelled.create {db : Db} (hd : db.Labelled) (s : Section) : (db.create s).Labelled := by
  unfold Db.create
  split
  · exact hd
  · exact hd.set s (l := []) fun _ hr => nomatch hr

/-- invariant of the line loop: whenever a `sig` line can be accepted a label has been read, and every record filed so far has one -/
def LabelInv (st : PSt) : Prop := (st.state = PState.needSig → st.label ≠ none) ∧ st.db.Labelled

theorem LabelInv.init : LabelInv PSt.init := ⟨fun hs => (nomatch hs), fun _ _ _ hs => (nomatch hs)⟩

theorem stepKind_labelInv {st st' : PSt} {n : Nat} {k : LineKind} (hj : LabelInv st) (h : stepKind st n k = .ok st') :
    LabelInv st' := by
  obtain ⟨hlab, hdb⟩ := hj
  cases stepKind_step h with
  | skip => exact ⟨hlab, hdb⟩
  | header s => exact ⟨nofun, hdb.create s⟩
  | sig v s sg l hstate _ _ hl =>
    refine ⟨hlab, hdb.set s fun r hr => ?_⟩
    rcases List.mem_append.mp hr with h1 | h1
    · exact hdb s l r hl h1
    · rw [List.mem_singleton.mp h1]; exact hlab hstate
  | label v s lb => exact ⟨fun _ => nofun, hdb⟩
  | sys v l o => exact ⟨fun _ => nofun, hdb⟩

theorem parseLines_labelled (ls : List (List Char)) (db : Db) (h : parseLines ls = .ok db) : db.Labelled := by
  obtain ⟨st, hg, rfl⟩ := parseLines_ok h
  exact (parseGo_rule (P := fun st _ => LabelInv st) stepKind_labelInv ls (pre := []) LabelInv.init hg).2

end P0f
