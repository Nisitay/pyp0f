import P0f.Spec.Wire
import P0f.Lemmas.QSet
/-
  The state of the option walk (`Opts`): which fields each update leaves alone, and `applyValue` by kind.  Then the walk
  itself, `parseOptsGo`, as `interp` over `tokenize`, with its step equations and induction along `tokenize` by named cases.
-/
namespace P0f

@[simp] theorem addQuirk_layout (o : Opts) (q : Quirk) : (o.addQuirk q).layout = o.layout := rfl
@[simp] theorem addQuirk_mss (o : Opts) (q : Quirk) : (o.addQuirk q).mss = o.mss := rfl
@[simp] theorem addQuirk_ts (o : Opts) (q : Quirk) : (o.addQuirk q).ts = o.ts := rfl
@[simp] theorem addQuirk_ws (o : Opts) (q : Quirk) : (o.addQuirk q).ws = o.ws := rfl
@[simp] theorem addQuirk_eolPad (o : Opts) (q : Quirk) : (o.addQuirk q).eolPad = o.eolPad := rfl

@[simp] theorem addQuirkIf_layout (o : Opts) (c : Bool) (q : Quirk) : (o.addQuirkIf c q).layout = o.layout := by
  cases c <;> rfl
@[simp] theorem addQuirkIf_mss (o : Opts) (c : Bool) (q : Quirk) : (o.addQuirkIf c q).mss = o.mss := by cases c <;> rfl
@[simp] theorem addQuirkIf_ts (o : Opts) (c : Bool) (q : Quirk) : (o.addQuirkIf c q).ts = o.ts := by cases c <;> rfl
@[simp] theorem addQuirkIf_ws (o : Opts) (c : Bool) (q : Quirk) : (o.addQuirkIf c q).ws = o.ws := by cases c <;> rfl
@[simp] theorem addQuirkIf_eolPad (o : Opts) (c : Bool) (q : Quirk) : (o.addQuirkIf c q).eolPad = o.eolPad := by
  cases c <;> rfl
@[simp] theorem addQuirkIf_quirks (o : Opts) (c : Bool) (q x : Quirk) :
    (o.addQuirkIf c q).quirks x = (o.quirks x || (c && x == q)) := by
  cases c
  · exact (Bool.or_false _).symm
  · rfl

theorem addQuirkIf_eq (o : Opts) (c : Bool) (q : Quirk) :
    o.addQuirkIf c q = { o with quirks := if c then o.quirks.union (QSet.ofList [q]) else o.quirks } := by
  cases c <;> simp [Opts.addQuirkIf, Opts.addQuirk, qinsert_eq_union]

@[simp] theorem pushKind_layout (o : Opts) (k : Nat) : (o.pushKind k).layout = o.layout ++ [k] := rfl
@[simp] theorem setMss_layout (o : Opts) (v : Nat) : (o.setMss v).layout = o.layout := rfl
@[simp] theorem setWs_layout (o : Opts) (v : Nat) : (o.setWs v).layout = o.layout := rfl
@[simp] theorem setTs_layout (o : Opts) (v : Nat) : (o.setTs v).layout = o.layout := rfl
@[simp] theorem setEolPad_layout (o : Opts) (v : Nat) : (o.setEolPad v).layout = o.layout := rfl

@[simp] theorem applyValue_layout (s : Bool) (k : Nat) (b : List Nat) (o : Opts) :
    (applyValue s k b o).layout = o.layout := by
  simp [applyValue, apply_ite Opts.layout]

theorem applyValue_values (s : Bool) (k : Nat) (b : List Nat) (o : Opts) :
    (applyValue s k b o).mss = (if k = 2 then be16 b else o.mss) ∧
    (applyValue s k b o).ws = (if k = 3 then b.getD 0 0 else o.ws) ∧
    (applyValue s k b o).ts = (if k = 8 then be32 b else o.ts) := by
  unfold applyValue
  by_cases h2 : k = 2
  · subst h2; simp [Opts.setMss]
  by_cases h3 : k = 3
  · subst h3; simp [Opts.setWs]
  by_cases h8 : k = 8
  · subst h8; simp [Opts.setTs]
  · simp [h2, h3, h8]

theorem optSize_eq_some_iff (k sz : Nat) :
    optSize k = some sz ↔ (k = 2 ∧ sz = 2) ∨ (k = 3 ∧ sz = 1) ∨ (k = 4 ∧ sz = 0) ∨ (k = 8 ∧ sz = 8) := by
  unfold optSize; grind

theorem applyValue_of_optSize_none (s : Bool) (k : Nat) (b : List Nat) (o : Opts) (h : optSize k = none) :
    applyValue s k b o = o := by
  have h2 : k ≠ 2 := by rintro rfl; cases h
  have h3 : k ≠ 3 := by rintro rfl; cases h
  have h8 : k ≠ 8 := by rintro rfl; cases h
  rw [applyValue, if_neg h2, if_neg h3, if_neg h8]

/-! ### the option walk

  One characterisation: the walk is the per-token interpretation of the option-area grammar (C03).  What the walk does
  on a particular form of buffer is then read off `tokenize`, which has five token forms where `parseOptsGo` has twelve
  branches (except `while0_spec` in LogicOk/TcpOptions, which follows `parseOptsGo`'s own twelve branches because the
  printed loop has the same tests). -/

theorem parseOptsGo_nil (isSyn : Bool) (st : Opts) : parseOptsGo isSyn [] st = st := by
  rw [parseOptsGo]

theorem parseOptsGo_eol (isSyn : Bool) (rest : List Nat) (st : Opts) :
    parseOptsGo isSyn (0 :: rest) st =
      ((st.pushKind 0).setEolPad rest.length).addQuirkIf (rest.any (· != 0)) .eolNz := by
  rw [parseOptsGo.eq_def]; rfl

theorem parseOptsGo_nop (isSyn : Bool) (rest : List Nat) (st : Opts) :
    parseOptsGo isSyn (1 :: rest) st = parseOptsGo isSyn rest (st.pushKind 1) := by
  rw [parseOptsGo.eq_def]; rfl

/-- induction along `tokenize` with named cases.  Each case hands over the tokens of its form of buffer as an equation
    (`induction … using` does not unfold `tokenize` the way `fun_induction` does), then the induction hypothesis, then the
    tests that select the case. -/
theorem tokenize_ind {motive : List Nat → Prop}
    (nil : tokenize [] = [] → motive [])
    (eol : ∀ rest, tokenize (0 :: rest) = [.eol rest] → motive (0 :: rest))
    (nop : ∀ rest, tokenize (1 :: rest) = .nop :: tokenize rest → motive rest → motive (1 :: rest))
    (trunc : ∀ kind, tokenize [kind] = [.trunc kind] → kind ≠ 0 → kind ≠ 1 → motive [kind])
    (overrun : ∀ kind len rest, tokenize (kind :: len :: rest) = [.overrun kind len rest] →
      kind ≠ 0 → kind ≠ 1 → len > 2 + rest.length ∨ len < 2 → motive (kind :: len :: rest))
    (opt : ∀ kind len rest,
      tokenize (kind :: len :: rest) = .opt kind len (rest.take (len - 2)) :: tokenize (rest.drop (len - 2)) →
      motive (rest.drop (len - 2)) → kind ≠ 0 → kind ≠ 1 → ¬ len > 2 + rest.length → ¬ len < 2 →
      motive (kind :: len :: rest))
    (l : List Nat) : motive l :=
  tokenize.induct_unfolding (fun l ts => tokenize l = ts → motive l) nil eol (fun rest _ ih e => nop rest e (ih rfl))
    (fun kind h0 h1 e => trunc kind e h0 h1) (fun kind h0 h1 len rest h e => overrun kind len rest e h0 h1 h)
    (fun kind h0 h1 len rest h ih e => opt kind len rest e (ih rfl) h0 h1 (fun h' => h (.inl h')) (fun h' => h (.inr h')))
    l rfl

theorem parseOptsGo_eq_interp (isSyn : Bool) (l : List Nat) (o : Opts) :
    parseOptsGo isSyn l o = interp isSyn (tokenize l) o := by
  induction l using tokenize_ind generalizing o with
  | nil e => rw [e]; exact parseOptsGo_nil isSyn o
  | eol rest e => rw [e]; exact parseOptsGo_eol isSyn rest o
  | nop rest e ih => rw [e]; exact (parseOptsGo_nop isSyn rest o).trans (ih _)
  | trunc kind e h0 h1 => rw [e, parseOptsGo, if_neg h0, if_neg h1]; rfl
  | overrun kind len rest e h0 h1 h =>
    rw [e, parseOptsGo, if_neg h0, if_neg h1]
    by_cases hgt : len > 2 + rest.length
    · rw [if_pos hgt]; rfl
    · rw [if_neg hgt, if_pos (h.resolve_left hgt)]; rfl
  | opt kind len rest e ih h0 h1 hlen h2 =>
    -- a complete option: `wellFormed` / `stopsAt` are the walk's tests by kind, read in the other order
    rw [e, parseOptsGo, if_neg h0, if_neg h1, if_neg hlen, if_neg h2, interp]
    simp only [← ih, wellFormed, stopsAt, ite_not]
    by_cases h5 : kind = 5
    · subst h5; simp [applyValue_of_optSize_none _ 5 _ _ rfl]
    · cases hos : optSize kind with
      | none => simp [h5, applyValue_of_optSize_none _ _ _ _ hos]
      | some sz => simp [h5]

theorem tokenize_opt (kind : Nat) (body rest : List Nat) (h0 : kind ≠ 0) (h1 : kind ≠ 1) :
    tokenize (kind :: (2 + body.length) :: (body ++ rest)) = .opt kind (2 + body.length) body :: tokenize rest := by
  rw [tokenize]
  simp [h0, h1]

theorem parseOptsGo_opt (isSyn : Bool) (kind : Nat) (body rest : List Nat) (st : Opts) (h0 : kind ≠ 0) (h1 : kind ≠ 1)
    (hw : wellFormed kind (2 + body.length) = true) :
    parseOptsGo isSyn (kind :: (2 + body.length) :: (body ++ rest)) st =
      parseOptsGo isSyn rest (applyValue isSyn kind body (st.pushKind kind)) := by
  simp only [parseOptsGo_eq_interp, tokenize_opt kind body rest h0 h1, interp, hw, ↓reduceIte]

end P0f
