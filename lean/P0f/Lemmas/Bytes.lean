import P0f.Model.Wire
/-
  Buffers whose entries are bytes: what extraction from the wire may assume of its input.
-/
namespace P0f

def AllBytes (l : List Nat) : Prop := ∀ x ∈ l, x < 256

theorem getD_lt {l : List Nat} (h : AllBytes l) (i : Nat) : l.getD i 0 < 256 := by
  unfold List.getD
  cases hi : l[i]? with
  | none => simp
  | some v => simpa using h v (List.mem_of_getElem? hi)

theorem u16_le (b : List Nat) (h : AllBytes b) (i : Nat) : u16 b i ≤ 65535 := by
  have h0 := getD_lt h i; have h1 := getD_lt h (i + 1); unfold u16; omega

theorem AllBytes.drop {l : List Nat} (h : AllBytes l) (n : Nat) : AllBytes (l.drop n) :=
  fun x hx => h x (List.mem_of_mem_drop hx)
theorem AllBytes.take {l : List Nat} (h : AllBytes l) (n : Nat) : AllBytes (l.take n) :=
  fun x hx => h x (List.mem_of_mem_take hx)
theorem AllBytes.tail {a : Nat} {l : List Nat} (h : AllBytes (a :: l)) : AllBytes l :=
  fun x hx => h x (by simp [hx])
theorem AllBytes.head {a : Nat} {l : List Nat} (h : AllBytes (a :: l)) : a ≤ 255 :=
  Nat.le_of_lt_succ (h a List.mem_cons_self)

end P0f
