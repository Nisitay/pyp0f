import P0f.Lemmas.SOpt
import P0f.Model.Impersonate
namespace P0f

/-! ### `_align_options`: the first SACK / unknown-kind option absorbs the missing bytes -/

def SOpt.stretchy : SOpt → Bool
  | .sack _ => true
  | .raw _ _ => true
  | _ => false

/-- as produced by `_impersonate_options`, before `_align_options`: SACK carries 8 zero bytes, an unknown kind none -/
def SOpt.fresh : SOpt → Prop
  | .sack n => n = 8
  | .raw _ n => n = 0
  | _ => True

theorem stretchFirst_zero (l : List SOpt) : stretchFirst 0 l = l := by
  induction l with
  | nil => rfl
  | cons o t ih => cases o <;> simp [stretchFirst, ih]

theorem alignOptions_eq (l : List SOpt) :
    alignOptions l = stretchFirst ((4 - (l.map SOpt.wireLen).sum % 4) % 4) l := by
  unfold alignOptions
  simp only
  split
  · rename_i h
    have : (4 - (l.map SOpt.wireLen).sum % 4) % 4 = 0 := by simpa using h
    rw [this, stretchFirst_zero]
  · rfl

theorem mem_stretchFirst (m : Nat) (l : List SOpt) (o : SOpt) (h : o ∈ stretchFirst m l) :
    o ∈ l ∨ (∃ n, .sack n ∈ l ∧ o = .sack (n + m)) ∨ (∃ k n, .raw k n ∈ l ∧ o = .raw k (n + m)) := by
  induction l with
  | nil => cases h
  | cons x t ih =>
    have tl : o ∈ t → o ∈ x :: t ∨ (∃ n, .sack n ∈ x :: t ∧ o = .sack (n + m)) ∨ (∃ k n, .raw k n ∈ x :: t ∧ o = .raw k (n + m)) :=
      fun h => Or.inl (List.mem_cons_of_mem _ h)
    cases x with
    | sack n => exact (List.mem_cons.mp h).elim (fun e => Or.inr (Or.inl ⟨n, List.mem_cons_self, e⟩)) tl
    | raw k n => exact (List.mem_cons.mp h).elim (fun e => Or.inr (Or.inr ⟨k, n, List.mem_cons_self, e⟩)) tl
    | _ =>
      refine (List.mem_cons.mp h).elim (fun e => Or.inl (e ▸ List.mem_cons_self)) fun h' => ?_
      rcases ih h' with h1 | ⟨n, h1, e⟩ | ⟨k, n, h1, e⟩
      · exact tl h1
      · exact Or.inr (Or.inl ⟨n, List.mem_cons_of_mem _ h1, e⟩)
      · exact Or.inr (Or.inr ⟨k, n, List.mem_cons_of_mem _ h1, e⟩)

theorem stretchFirst_of_none (m : Nat) (l : List SOpt) (h : l.any SOpt.stretchy = false) : stretchFirst m l = l := by
  induction l with
  | nil => rfl
  | cons o t ih =>
    rw [List.any_cons, Bool.or_eq_false_iff] at h
    cases o <;> first | exact congrArg (List.cons _) (ih h.2) | cases h.1

theorem stretchFirst_append (m : Nat) (l t : List SOpt) (ht : t.any SOpt.stretchy = false) :
    stretchFirst m (l ++ t) = stretchFirst m l ++ t := by
  induction l with
  | nil => exact stretchFirst_of_none m t ht
  | cons o r ih => cases o <;> simp [stretchFirst, ih]

theorem stretchFirst_wireLen (m : Nat) (l : List SOpt) :
    ((stretchFirst m l).map SOpt.wireLen).sum = (l.map SOpt.wireLen).sum + if l.any SOpt.stretchy then m else 0 := by
  induction l with
  | nil => rfl
  | cons o r ih =>
    cases o with
    | sack n => simp [stretchFirst, SOpt.wireLen, SOpt.encode, SOpt.stretchy]; omega
    | raw k n => simp [stretchFirst, SOpt.wireLen, SOpt.encode, SOpt.stretchy]; omega
    | _ =>
      simp only [stretchFirst, List.map_cons, List.sum_cons, ih, List.any_cons, SOpt.stretchy, Bool.false_or]
      exact (Nat.add_assoc ..).symm

/-- `_align_options` on `l ++ t` where nothing in `t` can be stretched: a stretchable option of `l` absorbs the missing
    bytes, which makes the total a multiple of four; without one the list stays as it is -/
theorem alignOptions_append (l t : List SOpt) (ht : t.any SOpt.stretchy = false) :
    ∃ m, m ≤ 3 ∧ alignOptions (l ++ t) = stretchFirst m l ++ t ∧
      ((stretchFirst m l ++ t).map SOpt.wireLen).sum ≤ ((l ++ t).map SOpt.wireLen).sum + 3 ∧
      (((stretchFirst m l ++ t).map SOpt.wireLen).sum % 4 = 0 ∨
        (l.any SOpt.stretchy = false ∧ stretchFirst m l = l)) := by
  refine ⟨(4 - ((l ++ t).map SOpt.wireLen).sum % 4) % 4, by omega, ?_, ?_, ?_⟩
  · rw [alignOptions_eq, stretchFirst_append _ _ _ ht]
  · rw [List.map_append, List.sum_append, stretchFirst_wireLen, List.map_append, List.sum_append]
    split <;> omega
  · cases hany : l.any SOpt.stretchy with
    | false => exact Or.inr ⟨rfl, stretchFirst_of_none _ _ hany⟩
    | true =>
      left
      rw [List.map_append, List.sum_append, stretchFirst_wireLen, hany, if_pos rfl, List.map_append, List.sum_append]
      omega

theorem stretchFirst_foldl_of {α : Type} (f : α → SOpt → α) (hs : ∀ a n n', f a (.sack n) = f a (.sack n'))
    (hw : ∀ a k n n', f a (.raw k n) = f a (.raw k n')) (m : Nat) (l : List SOpt) (a : α) :
    (stretchFirst m l).foldl f a = l.foldl f a := by
  induction l generalizing a with
  | nil => rfl
  | cons o r ih =>
    cases o with
    | sack n => rw [stretchFirst, List.foldl_cons, List.foldl_cons, hs]
    | raw k n => rw [stretchFirst, List.foldl_cons, List.foldl_cons, hw]
    | _ => simp only [stretchFirst, List.foldl_cons]; exact ih _

theorem stretchFirst_wf (m : Nat) (hm : m ≤ 3) (l : List SOpt) (hwf : ∀ o ∈ l, o.WF) (hfr : ∀ o ∈ l, o.fresh) :
    ∀ o ∈ stretchFirst m l, o.WF := by
  intro o ho
  rcases mem_stretchFirst m l o ho with h | ⟨n, h, rfl⟩ | ⟨k, n, h, rfl⟩
  · exact hwf o h
  · have : n = 8 := hfr _ h
    simp only [SOpt.WF]; omega
  · have : n = 0 := hfr _ h
    have := hwf _ h
    simp only [SOpt.WF] at this ⊢; omega

theorem stretchFirst_ne_eol (m : Nat) (l : List SOpt) (h : ∀ o ∈ l, o ≠ .eol) : ∀ o ∈ stretchFirst m l, o ≠ .eol := by
  intro o ho
  rcases mem_stretchFirst m l o ho with h' | ⟨n, _, rfl⟩ | ⟨k, n, _, rfl⟩
  · exact h o h'
  · exact SOpt.noConfusion
  · exact SOpt.noConfusion

end P0f
