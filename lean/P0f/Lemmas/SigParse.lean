import P0f.Lemmas.Str
/-
  What the signature parsers of `Model/SigParse` build on the string operations: the invariant rule for their item loops
  (`foldlM_inv`), the number readers (`parseNumber*`, on top of `int(str(n))`) and the window field (`WinOk`, `windowForm`).
-/
namespace P0f
open P0f.Py

theorem foldlM_inv {α β : Type} {f : β → α → Option β} {P : β → Prop}
    (hstep : ∀ b a b', P b → f b a = some b' → P b') {l : List α} {b r : β} (hb : P b)
    (h : l.foldlM f b = some r) : P r := by
  induction l generalizing b with
  | nil => cases h; exact hb
  | cons a t ih =>
    simp only [List.foldlM_cons, Option.bind_eq_bind] at h
    obtain ⟨b', hb', ht⟩ := Option.bind_eq_some_iff.mp h
    exact ih (hstep b a b' hb hb') ht

/-! ### the signature grammar: numbers in a range

Every bound in the grammar is a numeral.  The lemmas about `parseNumberN` / `parseNumberW` are stated for numerals
(`OfNat.ofNat lo`), so that a use site `parseNumberN f 1 255` matches as it stands and the bounds are `1 ≤ n`, `n ≤ 255` over `Nat`. -/

theorem parseNumber_natStr {lo hi n : Nat} (h1 : OfNat.ofNat lo ≤ n) (h2 : n ≤ OfNat.ofNat hi) :
    parseNumber (natStr n) (OfNat.ofNat lo) (OfNat.ofNat hi) = some (n : Int) := by
  have h1' : (OfNat.ofNat lo : Int) ≤ n := Int.ofNat_le.mpr h1
  have h2' : (n : Int) ≤ OfNat.ofNat hi := Int.ofNat_le.mpr h2
  simp [parseNumber, pyInt?_natStr, h1', h2']

theorem parseNumberN_natStr {lo hi n : Nat} (h1 : OfNat.ofNat lo ≤ n) (h2 : n ≤ OfNat.ofNat hi) :
    parseNumberN (natStr n) (OfNat.ofNat lo) (OfNat.ofNat hi) = some n := by
  simp [parseNumberN, parseNumber_natStr h1 h2]

theorem natStr_not_wild (n : Nat) : isWildcardStr (natStr n) = false := by
  obtain ⟨c, t, h, hd⟩ := natStr_head n
  simp [isWildcardStr, h, isDigit_ne hd (d := '*') (by decide)]

theorem parseNumberW_natStr {lo hi n : Nat} (h1 : OfNat.ofNat lo ≤ n) (h2 : n ≤ OfNat.ofNat hi) :
    parseNumberW (natStr n) (OfNat.ofNat lo) (OfNat.ofNat hi) = some (some n) := by
  simp [parseNumberW, natStr_not_wild, parseNumber_natStr h1 h2]

theorem parseNumber_range (s : List Char) (lo hi v : Int) (h : parseNumber s lo hi = some v) : lo ≤ v ∧ v ≤ hi := by
  unfold parseNumber at h
  split at h
  · split at h
    · cases h; assumption
    · cases h
  · cases h

theorem parseNumberN_range {f : List Char} {lo hi n : Nat}
    (h : parseNumberN f (OfNat.ofNat lo) (OfNat.ofNat hi) = some n) : OfNat.ofNat lo ≤ n ∧ n ≤ OfNat.ofNat hi := by
  obtain ⟨v, hv, rfl⟩ := Option.map_eq_some_iff.mp h
  have : (lo : Int) ≤ v ∧ v ≤ (hi : Int) := parseNumber_range _ _ _ _ hv
  show lo ≤ v.toNat ∧ v.toNat ≤ hi
  omega

theorem parseNumberW_range {f : List Char} {lo hi : Nat} {r : Option Nat}
    (h : parseNumberW f (OfNat.ofNat lo) (OfNat.ofNat hi) = some r) :
    ∀ n, r = some n → OfNat.ofNat lo ≤ n ∧ n ≤ OfNat.ofNat hi := by
  unfold parseNumberW at h
  split at h
  · cases h; nofun
  · rintro n rfl
    exact parseNumberN_range (by simpa [parseNumberN] using h)

theorem parseNumberN_map_range {α : Type} {g : Nat → α} {r : α} {f : List Char} {lo hi : Nat}
    (h : (parseNumberN f (OfNat.ofNat lo) (OfNat.ofNat hi)).map g = some r) :
    ∃ n, (OfNat.ofNat lo ≤ n ∧ n ≤ OfNat.ofNat hi) ∧ g n = r :=
  have ⟨n, hn, he⟩ := Option.map_eq_some_iff.mp h
  ⟨n, parseNumberN_range hn, he⟩

/-- the window part of the field (before the comma) in `parseWindow`: type and size -/
def windowForm (w : List Char) : Option (WinType × Nat) :=
  if isWildcardStr w then some (.any, 0)
  else if startsWith w "mss*".toList then (parseNumberN (w.drop 4) 1 1000).map fun n => (.mss, n)
  else if startsWith w "mtu*".toList then (parseNumberN (w.drop 4) 1 1000).map fun n => (.mtu, n)
  else if startsWith w ['%'] then (parseNumberN (w.drop 1) 2 65535).map fun n => (.mod, n)
  else (parseNumberN w 0 65535).map fun n => (.normal, n)

theorem parseWindow_eq (f : List Char) :
    parseWindow f = (windowForm (partition ',' f).1).bind fun tn =>
      (parseNumberW (partition ',' f).2.2 0 255).map fun sc => (tn.1, tn.2, sc) := by
  unfold parseWindow
  simp only []
  change (match windowForm (partition ',' f).1, parseNumberW (partition ',' f).2.2 0 255 with
    | some (t, n), some sc => some (t, n, sc) | _, _ => none) = _
  cases windowForm (partition ',' f).1 <;> cases parseNumberW (partition ',' f).2.2 0 255 <;> rfl

/-- the sizes `_parse_window` accepts, by window form -/
def WinOk : WinType → Nat → Prop
  | .normal, n => n ≤ 65535
  | .mod, n => 2 ≤ n ∧ n ≤ 65535
  | .mss, n | .mtu, n => 1 ≤ n ∧ n ≤ 1000
  | .any, n => n = 0

/-- `WinOk` in the spelling of `Sig.WF.win` -/
theorem winOk_iff {t : WinType} {n : Nat} :
    WinOk t n ↔ (t = .normal → n ≤ 65535) ∧ (t = .mod → 2 ≤ n ∧ n ≤ 65535) ∧
      ((t = .mss ∨ t = .mtu) → 1 ≤ n ∧ n ≤ 1000) ∧ (t = .any → n = 0) := by
  cases t <;> simp [WinOk]

theorem windowForm_some {w : List Char} {t : WinType} {n : Nat} (h : windowForm w = some (t, n)) : WinOk t n := by
  revert h
  unfold windowForm
  refine iteInduction (motive := fun o => o = some (t, n) → _) (fun _ h => by cases h; rfl) fun _ => ?_
  -- `mss*`, `mtu*`, `%`: the range read is the one `WinOk` asks for
  iterate 3
    refine iteInduction (motive := fun o => o = some (t, n) → _)
      (fun _ h => by obtain ⟨m, hm, he⟩ := parseNumberN_map_range h; cases he; exact hm) fun _ => ?_
  exact fun h => by obtain ⟨m, hm, he⟩ := parseNumberN_map_range h; cases he; exact hm.2

theorem parseWindow_some (f : List Char) (wt : WinType) (n : Nat) (sc : Option Nat)
    (h : parseWindow f = some (wt, n, sc)) : WinOk wt n ∧ ∀ s, sc = some s → s ≤ 255 := by
  rw [parseWindow_eq] at h
  obtain ⟨⟨t', n'⟩, hw, h⟩ := Option.bind_eq_some_iff.mp h
  obtain ⟨sc', hsc, he⟩ := Option.map_eq_some_iff.mp h
  cases he
  exact ⟨windowForm_some hw, fun s hs => (parseNumberW_range hsc s hs).2⟩

theorem parseWindow_any (f : List Char) (n : Nat) (sc : Option Nat)
    (h : parseWindow f = some (.any, n, sc)) : n = 0 :=
  (parseWindow_some f _ n sc h).1

end P0f
