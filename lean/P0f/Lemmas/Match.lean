import P0f.Lemmas.QSet
import P0f.Spec.Match
/-
  Behind C01: the tests of `tcp_signatures_match` as Booleans in source order (`fixedB`, `quirkStep`, `ttlB`), each with
  the clause of the property it decides, and the property's decision list read backwards (`specMatch_eq_some_iff`).
-/
namespace P0f

theorem maskedQ_eq (s : Sig) (p : PSig) : maskedQ s p = effQ s p := by
  funext q
  unfold maskedQ effQ QSet.inter QSet.compl v4Only v6Only QSet.ofList
  cases s.ipVer.isNone <;> by_cases h4 : p.ipVer = 4 <;> simp [h4]

theorem quirkStep_exact (a b : QSet) : quirkStep a b = some .exact ↔ ∀ q, a q = b q := by
  rw [← QSet.beq_iff, quirkStep]
  cases a.beq b
  · simp only [Bool.not_false, ite_true]; split <;> simp
  · simp

theorem quirkStep_isSome (a b : QSet) : (quirkStep a b).isSome = true ↔
    (∀ q, a q = true → b q = false → (q = .df ∨ q = .nzId)) ∧
    (∀ q, a q = false → b q = true → (q = .zeroId ∨ q = .ecn)) := by
  have hdeleted (q) : ((a.xor b).inter a) q = true ↔ a q = true ∧ b q = false := by
    rw [qxor_inter_left, QSet.inter_compl_apply]
  have hadded (q) : ((a.xor b).inter b) q = true ↔ a q = false ∧ b q = true := by
    rw [qxor_inter_right, QSet.inter_compl_apply, and_comm]
  unfold quirkStep
  by_cases h : a.beq b = true
  · have hb := (QSet.beq_iff a b).mp h
    simp only [h, Bool.not_true, Bool.false_eq_true, ↓reduceIte, Option.isSome_some, true_iff]
    exact ⟨fun q h1 h2 => (nomatch h1.symm.trans ((hb q).trans h2)), fun q h1 h2 => (nomatch h1.symm.trans ((hb q).trans h2))⟩
  · simp only [h, Bool.not_false, ite_true]
    rw [← Bool.not_and, apply_ite Option.isSome]
    simp [QSet.isEmpty_inter_compl, hdeleted, hadded]

theorem quirkStep_ne_fuzzyTtl (a b : QSet) : quirkStep a b ≠ some .fuzzyTtl := by
  unfold quirkStep
  dsimp only
  split
  · split <;> nofun
  · nofun

theorem windowBad_iff (s : Sig) (p : PSig) : windowBad s p = false ↔ windowFits s p := by
  unfold windowBad windowFits
  -- left after `simp`: the `mss*` / `mtu*` forms, where code and property write `wsize = multVal` in opposite directions
  cases s.wtype <;> simp <;> exact fun _ => eq_comm

/-- boolean form of the fixed criteria, in source order -/
def fixedB (s : Sig) (p : PSig) : Bool :=
  s.layout == p.layout && !(s.ipVer.isSome && s.ipVer != some p.ipVer) &&
  !(s.eolPad != p.eolPad || (s.olen : Int) != p.olen) &&
  !(s.badTtl && s.ttl < p.ttl) &&
  !((s.mss.isSome && s.mss != some p.mss) || (s.scale.isSome && s.scale != some p.wscale)
          || (s.payClass.isSome && s.payClass != some p.hasPayload)) &&
  !windowBad s p

/-- the code's test of a field the signature may leave open (`sig.x != WILDCARD and sig.x != pkt.x`) -/
theorem isSome_and_bne_eq_false_iff {α : Type} [DecidableEq α] (o : Option α) (x : α) :
    (o.isSome && o != some x) = false ↔ ∀ v, o = some v → v = x := by
  cases o <;> simp

theorem fixedB_iff (s : Sig) (p : PSig) : fixedB s p = true ↔ fixedOk s p := by
  unfold fixedB fixedOk
  simp only [Bool.and_eq_true, Bool.not_eq_true', Bool.or_eq_false_iff, isSome_and_bne_eq_false_iff, windowBad_iff, beq_iff_eq,
    bne_eq_false_iff_eq]
  simp only [Bool.and_eq_false_imp, decide_eq_false_iff_not, Nat.not_lt]
  -- the same nine clauses, grouped in source order on the left and in the property's order on the right
  constructor
  · rintro ⟨⟨⟨⟨⟨hlayout, hver⟩, heol, holen⟩, httl⟩, ⟨hmss, hscale⟩, hpay⟩, hwin⟩
    exact ⟨hlayout, heol, holen, hver, hmss, hscale, hpay, hwin, httl⟩
  · rintro ⟨hlayout, heol, holen, hver, hmss, hscale, hpay, hwin, httl⟩
    exact ⟨⟨⟨⟨⟨hlayout, hver⟩, heol, holen⟩, httl⟩, ⟨hmss, hscale⟩, hpay⟩, hwin⟩

theorem fixedOk.ipVer {s : Sig} {p : PSig} (h : fixedOk s p) {v : Nat} (hv : s.ipVer = some v) : v = p.ipVer :=
  h.2.2.2.1 v hv

theorem fixedOk.window {s : Sig} {p : PSig} (h : fixedOk s p) : windowFits s p :=
  h.2.2.2.2.2.2.2.1

theorem fixedOk.ttl_le {s : Sig} {p : PSig} (h : fixedOk s p) (hb : s.badTtl = true) : p.ttl ≤ s.ttl :=
  h.2.2.2.2.2.2.2.2 hb

def ttlB (s : Sig) (p : PSig) (d : Int) : Bool :=
  s.badTtl || !(s.ttl < p.ttl || (s.ttl : Int) - p.ttl > d)

theorem ttlB_iff (s : Sig) (p : PSig) (d : Int) : ttlB s p d = true ↔ ttlWithin s p d := by
  unfold ttlB ttlWithin; simp

/-- the code, re-associated: result as a function of two Booleans and the quirk step's answer -/
theorem tcpMatch_eq_bool (s : Sig) (p : PSig) (d : Int) :
    tcpMatch s p d =
      if fixedB s p then
        match quirkStep (maskedQ s p) p.quirks with
        | none => none
        | some mt0 => if ttlB s p d then some mt0 else some .fuzzyTtl
      else none := by
  unfold tcpMatch fixedB ttlB
  rw [bne]
  -- the tests before the TTL step in source order: each early `None` makes the conjunction false
  cases s.layout == p.layout
  case false => rfl
  cases s.ipVer.isSome && s.ipVer != some p.ipVer
  case true => rfl
  cases quirkStep (maskedQ s p) p.quirks
  case none => exact (ite_self _).symm
  cases s.eolPad != p.eolPad || (s.olen : Int) != p.olen
  case true => rfl
  dsimp only
  -- so does each of the two tests after the TTL step, whatever that step answers
  cases (s.mss.isSome && s.mss != some p.mss) || (s.scale.isSome && s.scale != some p.wscale)
    || (s.payClass.isSome && s.payClass != some p.hasPayload)
  case true => generalize (if s.badTtl = true then _ else _ : Option MatchType) = ts; cases ts <;> simp
  cases windowBad s p
  case true => generalize (if s.badTtl = true then _ else _ : Option MatchType) = ts; cases ts <;> simp
  -- the TTL step itself: a `ttl-` signature below the packet's TTL is the fourth clause of `fixedB`, the rest is `ttlB`
  by_cases ht : s.ttl < p.ttl <;> simp only [ht, decide_true, decide_false, if_true, if_false] <;>
    cases s.badTtl <;> cases decide ((s.ttl : Int) - p.ttl > d) <;> rfl

theorem specMatch_eq_some_iff (s : Sig) (p : PSig) (d : Int) (m : MatchType) :
    specMatch s p d = some m ↔ (fixedOk s p ∧ quirksFuzz s p) ∧
      ((quirksEqual s p ∧ ttlWithin s p d) ∧ m = .exact ∨ ¬ ttlWithin s p d ∧ m = .fuzzyTtl
        ∨ (¬ quirksEqual s p ∧ ttlWithin s p d) ∧ m = .fuzzyQuirks) := by
  unfold specMatch
  by_cases hc : fixedOk s p ∧ quirksFuzz s p
  · rw [if_neg (not_not_intro hc)]
    by_cases ht : ttlWithin s p d
    · by_cases he : quirksEqual s p <;> simp [hc, ht, he, eq_comm]
    · simp [hc, ht, eq_comm]
  · simp [hc]

theorem specMatch_fuzzyTtl_iff {s : Sig} {p : PSig} {d : Int} {m : MatchType} (h : specMatch s p d = some m) :
    m = .fuzzyTtl ↔ ¬ ttlWithin s p d := by
  rcases ((specMatch_eq_some_iff s p d m).mp h).2 with ⟨ht, rfl⟩ | ⟨ht, rfl⟩ | ⟨ht, rfl⟩
  · exact ⟨nofun, fun hn => absurd ht.2 hn⟩
  · exact ⟨fun _ => ht, fun _ => rfl⟩
  · exact ⟨nofun, fun hn => absurd ht.2 hn⟩

theorem quirksFuzz_of_equal {s : Sig} {p : PSig} (he : quirksEqual s p) : quirksFuzz s p :=
  (quirkStep_isSome _ _).mp (Option.isSome_iff_exists.mpr ⟨_, (quirkStep_exact _ _).mpr he⟩)

end P0f
