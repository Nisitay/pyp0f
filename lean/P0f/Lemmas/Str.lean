import P0f.Model.SigParse
import Std.Data.String.ToNat
/-
  The Python string operations of `Py/Str` on the texts pyp0f prints: `strip`, `int` of `str(n)`, `partition`, `split` /
  `split_parts` of a `join`; and what `split` / `split_parts` yield on any text.  What the signature parsers build on them
  is in `Lemmas/SigParse`.
-/
namespace P0f
open P0f.Py

theorem dropWhile_id_of_all_false {p : Char → Bool} {s : List Char} (h : ∀ c ∈ s, p c = false) :
    s.dropWhile p = s := by
  cases s with
  | nil => rfl
  | cons a t => simp [List.dropWhile, h a (by simp)]

theorem stripP_id {p : Char → Bool} {s : List Char} (h : ∀ c ∈ s, p c = false) : stripP p s = s := by
  unfold stripP rstripP lstripP
  rw [dropWhile_id_of_all_false h, dropWhile_id_of_all_false (by simpa using h)]
  simp

theorem isDigit_not_space {c : Char} (h : c.isDigit = true) : isSpace c = false := by
  have h1 : 48 ≤ c.toNat ∧ c.toNat ≤ 57 := by
    simpa [Char.isDigit, ← Char.toNat_val, UInt32.le_iff_toNat_le] using h
  have hne : ∀ d : Char, d.toNat < 48 → (c == d) = false := fun d hd => by
    rw [beq_eq_false_iff_ne, Ne, ← Char.toNat_inj]; omega
  -- the four characters go by `hne`; left are the tests on `c.toNat` (0x0b, 0x0c, 0x1c..0x1f)
  simp [isSpace, hne ' ' (by decide), hne '\t' (by decide), hne '\n' (by decide), hne '\r' (by decide)]
  omega

theorem natStr_digits (n : Nat) : ∀ c ∈ natStr n, c.isDigit = true := by
  intro c hc
  unfold natStr at hc
  rw [Nat.toList_repr] at hc
  exact Nat.isDigit_of_mem_toDigits (by omega) (by omega) hc

theorem natStr_ne_nil (n : Nat) : natStr n ≠ [] := by
  unfold natStr; rw [Nat.toList_repr]; exact Nat.toDigits_ne_nil

theorem natStr_head (n : Nat) : ∃ c t, natStr n = c :: t ∧ c.isDigit = true := by
  cases h : natStr n with
  | nil => exact absurd h (natStr_ne_nil n)
  | cons c t => exact ⟨c, t, rfl, natStr_digits n c (by rw [h]; simp)⟩

theorem isDigit_ne {c d : Char} (h : c.isDigit = true) (hd : d.isDigit = false) : c ≠ d := by
  rintro rfl; simp [h] at hd

theorem natStr_not_mem (n : Nat) (d : Char) (hd : d.isDigit = false) : d ∉ natStr n :=
  fun h => isDigit_ne (natStr_digits n d h) hd rfl

theorem digitsNat?_natStr (n : Nat) : digitsNat? (natStr n) = some n := by
  unfold digitsNat? natStr
  rw [String.ofList_toList]
  exact Nat.toNat?_repr n

theorem pyInt?_natStr (n : Nat) : pyInt? (natStr n) = some (n : Int) := by
  have hs : strip (natStr n) = natStr n :=
    stripP_id (fun c hc => isDigit_not_space (natStr_digits n c hc))
  obtain ⟨c, r, hcr, hd⟩ := natStr_head n
  have h1 := isDigit_ne hd (d := '+') (by decide)
  have h2 := isDigit_ne hd (d := '-') (by decide)
  have hn := digitsNat?_natStr n
  rw [hcr] at hs hn ⊢
  simp [pyInt?, hs, h1, h2, hn]

theorem partition_append {c : Char} {a : List Char} (b : List Char) (h : c ∉ a) :
    partition c (a ++ c :: b) = (a, true, b) := by
  have ha : ∀ x ∈ a, (x != c) = true := fun x hx => bne_iff_ne.mpr fun e => h (e ▸ hx)
  simp [partition, List.dropWhile_append_of_pos ha, List.takeWhile_append_of_pos ha]

theorem partition_of_not_mem {c : Char} {s : List Char} (h : c ∉ s) : partition c s = (s, false, []) := by
  have hs : ∀ x ∈ s, (x != c) = true := fun x hx => bne_iff_ne.mpr fun e => h (e ▸ hx)
  have hd := List.dropWhile_append_of_pos (l₂ := []) hs
  have ht := List.takeWhile_append_of_pos (l₂ := []) hs
  rw [List.append_nil] at hd ht
  simp [partition, hd, ht]

theorem not_mem_intercalate {c sep : Char} {items : List (List Char)} (hs : c ≠ sep) (h : ∀ l ∈ items, c ∉ l) :
    c ∉ [sep].intercalate items := by
  induction items with
  | nil => simp
  | cons a t ih =>
    cases t with
    | nil => simpa using h a (by simp)
    | cons b t' =>
      rw [List.intercalate_cons_cons]
      simp only [List.mem_append, List.mem_cons, List.not_mem_nil, or_false, not_or]
      exact ⟨⟨h a (by simp), hs⟩, ih (fun l hl => h l (by simp [hl]))⟩

theorem splitParts_intercalate {c : Char} {n : Nat} {ls : List (List Char)} (hn : ls.length = n)
    (hc : ∀ l ∈ ls, c ∉ l) : splitParts c n ([c].intercalate ls) = ls := by
  subst hn
  cases ls with
  | nil => simp [splitParts]
  | cons a t => simp [splitParts, List.splitOn_intercalate c hc]

theorem not_mem_of_mem_splitOn (a : Char) (xs : List Char) : ∀ l ∈ xs.splitOn a, a ∉ l := by
  induction xs with
  | nil => simp
  | cons x xs ih =>
    obtain ⟨h, t, hs⟩ := List.exists_cons_of_ne_nil (List.splitOn_ne_nil a xs)
    rw [List.splitOn_cons_eq_if_modifyHead, hs]
    rw [hs] at ih
    split
    · simpa using ih
    · rename_i hx
      have : a ≠ x := fun e => hx (by simp [e])
      simpa [this] using ih

theorem not_mem_of_mem_splitParts (c : Char) (n : Nat) (s : List Char) : ∀ p ∈ splitParts c n s, c ∉ p := by
  intro p hp
  rcases List.mem_append.mp hp with hp | hp
  · exact not_mem_of_mem_splitOn c s p (List.mem_of_mem_take hp)
  · simp [(List.mem_replicate.mp hp).2]

theorem intercalate_eq_nil {c : Char} {ls : List (List Char)} : [c].intercalate ls = [] ↔ ls = [] ∨ ls = [[]] := by
  match ls with
  | [] => simp
  | [a] => simp
  | a :: b :: t => simp [List.intercalate_cons_cons]

/-- the reader of a comma-separated field (`[] if not field else field.split(",")`) undoes `",".join` -/
theorem commaField_joinComma {items : List (List Char)} (hc : ∀ l ∈ items, ',' ∉ l) (h1 : items ≠ [[]]) :
    (if (joinComma items).isEmpty then [] else split ',' (joinComma items)) = items := by
  by_cases h0 : items = []
  · simp [h0, joinComma]
  · have : joinComma items ≠ [] := fun e => (intercalate_eq_nil.mp e).elim h0 h1
    simp only [List.isEmpty_iff, this, ↓reduceIte]
    exact List.splitOn_intercalate ',' hc h0

theorem isInfix_single (c : Char) (s : List Char) : isInfix [c] s = s.contains c := by
  induction s with
  | nil => rfl
  | cons x xs ih =>
    unfold isInfix
    rw [ih, List.contains_cons]
    simp only [List.isPrefixOf, Bool.and_true]

theorem take_len_pred (s : List Char) : List.take (s.length - 1) s = s.dropLast := by
  rw [List.dropLast_eq_take]

/-! `split_parts(s, n)` always yields `n` pieces, which the parsers unpack by position -/

theorem splitParts_len (c : Char) (n : Nat) (s : List Char) : (splitParts c n s).length = n := by
  unfold splitParts
  simp only [List.length_append, List.length_replicate, List.length_take]
  omega

theorem exists_of_length_eq_four {α : Type} {l : List α} (h : l.length = 4) : ∃ a b c d, l = [a, b, c, d] := by
  match l, h with
  | [a, b, c, d], _ => exact ⟨a, b, c, d, rfl⟩

theorem exists_of_length_eq_eight {α : Type} {l : List α} (h : l.length = 8) :
    ∃ a b c d e f g i, l = [a, b, c, d, e, f, g, i] := by
  match l, h with
  | [a, b, c, d, e, f, g, i], _ => exact ⟨a, b, c, d, e, f, g, i, rfl⟩

end P0f
