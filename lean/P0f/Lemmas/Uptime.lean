import P0f.Spec.Uptime
import P0f.Lemmas.Gate
/-
  What the C13 proofs share: the gate, the model's decision list on the documented domain (`fingerprintUptime_dom`, which both
  the rational reading in Props/C13 and the source bridge in LogicOk/Uptime start from), and the arithmetic that takes the
  model's cross-multiplied integer tests to the spec's rational ones.
-/
namespace P0f

/-- the uptime gate, for any type value: the three admitted types pass `should_fingerprint` -/
theorem validUptime_eq_true (frag : Bool) (t : Nat) :
    validUptime frag t = true ↔ frag = false ∧ (t = F_SYN ∨ t = F_SYN ||| F_ACK ∨ t = F_ACK) := by
  unfold validUptime
  rw [Bool.and_eq_true, Bool.or_eq_true, Bool.or_eq_true, beq_iff_eq, beq_iff_eq, beq_iff_eq, or_assoc]
  exact and_congr_left fun ht => by rw [shouldFingerprint_of_type ht, Bool.not_eq_true']

theorem not_validUptime_iff (frag : Bool) (t : Nat) :
    (!validUptime frag t) = true ↔ (frag = true ∨ ¬ (t = F_SYN ∨ t = F_SYN ||| F_ACK ∨ t = F_ACK)) := by
  rw [Bool.not_eq_true', ← Bool.not_eq_true, validUptime_eq_true, Classical.not_and_iff_not_or_not, Bool.not_eq_false]

theorem ite_ne {α : Sort _} {c : Prop} [Decidable c] {x y z : α} (hx : x ≠ z) (hy : y ≠ z) :
    (if c then x else y) ≠ z := by
  split <;> assumption

theorem badReading_ne (t : Nat) : badReading t ≠ .packetError := ite_ne nofun nofun

theorem badReading_eq (t : Nat) : badReading t = if t = F_SYN then .noVerdict else .badTps := by
  unfold badReading
  by_cases h : t = F_SYN <;> simp [h]

/-- PacketError is raised at the gate and nowhere else (no assumption on the thresholds) -/
theorem fingerprintUptime_eq_packetError (o : UpOpts) (flags : Nat) (frag : Bool) (a b : Nat) (ms : Int) :
    fingerprintUptime o flags frag a b ms = .packetError ↔ (!validUptime frag (tcpType flags)) = true := by
  unfold fingerprintUptime
  simp only []
  refine ⟨fun h => Classical.byContradiction fun hv => ?_, fun hv => if_pos hv⟩
  rw [if_neg hv] at h
  have nv : UpOut.noVerdict ≠ .packetError := nofun
  have od : UpOut.outOfDomain ≠ .packetError := nofun
  -- below the gate, one `ite_ne` per test of the decision list: no leaf is `.packetError`
  exact ite_ne nv (ite_ne nv (ite_ne od (ite_ne (ite_ne od (badReading_ne _))
    (ite_ne (badReading_ne _) UpOut.noConfusion)))) h

theorem fingerprintUptime_type_idem (o : UpOpts) (flags : Nat) (frag : Bool) (a b : Nat) (ms : Int) :
    fingerprintUptime o (tcpType flags) frag a b ms = fingerprintUptime o flags frag a b ms := by
  unfold fingerprintUptime; rw [tcpType_idem]

/-- the code's wait / tick-count / grace test on the tick difference `d` -/
abbrev UpOpts.skips (o : UpOpts) (d : Nat) (ms : Int) : Prop :=
  ¬ (o.minWait ≤ ms ∧ ms ≤ o.maxWait)
    ∨ (d < 5 ∨ (ms < o.grace ∧ ((tsInv d / 1000 : Nat) : Int) * o.maxScaleD * o.grace < o.maxScaleN))

/-- the code's `min_timestamp_scale <= raw_frequency <= max_timestamp_scale` on the reading `num / den`, cross-multiplied -/
abbrev UpOpts.withinScale (o : UpOpts) (num den : Nat) : Prop :=
  o.minScaleN * den ≤ num * o.minScaleD ∧ num * o.maxScaleD ≤ o.maxScaleN * den

theorem UpOpts.Dom.pos_of_not_skips {o : UpOpts} (hD : o.Dom) {d : Nat} {ms : Int} (h : ¬ o.skips d ms) : 0 < ms := by
  have := hD.wait
  have : o.minWait ≤ ms := Classical.byContradiction fun hc => h (Or.inl fun h' => hc h'.1)
  omega

/-- on the documented domain the model is a five-way decision list: past the skip test `ms` is positive, and a backward
    reading is below a positive lower threshold, so the two `outOfDomain` exits are dead -/
theorem fingerprintUptime_dom (o : UpOpts) (hD : o.Dom) (flags : Nat) (frag : Bool) (a b : Nat) (ms : Int) :
    fingerprintUptime o flags frag a b ms =
      if !validUptime frag (tcpType flags) then .packetError
      else if b = 0 ∨ a = 0 then .noVerdict
      else if o.skips (tsDiff a b) ms then .noVerdict
      else if tsDiff a b > tsInv (tsDiff a b) ∨ ¬ o.withinScale (tsDiff a b * 1000) ms.toNat then
        badReading (tcpType flags)
      else .verdict (tsDiff a b * 1000) ms.toNat (roundFrequency (tsDiff a b * 1000 / ms.toNat))
        (b / roundFrequency (tsDiff a b * 1000 / ms.toNat) / 60)
        (4294967295 / (roundFrequency (tsDiff a b * 1000 / ms.toNat) * 60 * 60 * 24)) := by
  unfold fingerprintUptime
  refine ite_congr rfl (fun _ => rfl) fun _ => ?_
  simp only []
  by_cases hz : b = 0 ∨ a = 0
  · rw [if_pos hz, if_pos hz]
  by_cases hs : o.skips (tsDiff a b) ms
  · rw [if_neg hz, if_pos hs, if_neg hz, if_pos hs]
  have hms := hD.pos_of_not_skips hs
  have hmin := hD.minPos
  rw [if_neg hz, if_neg hs, if_neg (show ¬ ms ≤ 0 by omega), if_neg hz, if_neg hs]
  by_cases hbk : tsDiff a b > tsInv (tsDiff a b)
  · rw [if_pos hbk, if_neg (show ¬ (o.minScaleN = 0 ∧ _) by omega), if_pos (Or.inl hbk)]
  by_cases hr : o.withinScale (tsDiff a b * 1000) ms.toNat
  · rw [if_neg hbk, if_neg (not_not_intro hr), if_neg (not_or.mpr ⟨hbk, not_not_intro hr⟩)]
  · rw [if_neg hbk, if_pos hr, if_pos (Or.inr hr)]

theorem emod32_range (x : Int) : 0 ≤ Int.emod x 4294967296 ∧ Int.emod x 4294967296 < 4294967296 :=
  ⟨Int.emod_nonneg _ (by decide), Int.emod_lt_of_pos _ (by decide)⟩

theorem tsDiff_lt (a b : Nat) : tsDiff a b < TWO32 :=
  (Int.toNat_lt (emod32_range _).1).mpr (emod32_range _).2

theorem tsDiff_eq_ticks (a b : Nat) (ha : a < TWO32) : tsDiff a b = ticks a b := by
  -- over ℤ, `b + 2^32 - a` (a natural number, as `a < 2^32`) is `b - a` plus the modulus
  rw [tsDiff, ticks, Nat.mod_eq_of_lt ha, ← Int.toNat_natCast ((b + TWO32 - a) % TWO32), Int.natCast_mod,
    Int.natCast_sub (Nat.le_add_left_of_le ha.le), Int.natCast_add, ← sub_add_eq_add_sub, Int.add_emod_right]

theorem backward_iff (a b : Nat) : ticks a b > tsInv (ticks a b) ↔ backward a b := by
  have : ticks a b < TWO32 := Nat.mod_lt _ (by decide)
  unfold tsInv backward TWO32 at *
  omega

theorem tolerated_iff (o : UpOpts) (hD : o.Dom) (a b : Nat) (ms : Int) :
    (ms < o.grace ∧ ((tsInv (ticks a b) / 1000 : Nat) : Int) * o.maxScaleD * o.grace < o.maxScaleN)
      ↔ tolerated o a b ms := by
  have hg : (0 : ℚ) < (o.grace : ℚ) := Int.cast_pos.2 (Int.lt_of_lt_of_le Int.one_pos hD.grace)
  have hd : (0 : ℚ) < (o.maxScaleD : ℚ) := Nat.cast_pos.2 hD.maxD
  refine and_congr_right fun _ => ?_
  rw [maxScaleQ, lt_div_iff₀ hg, lt_div_iff₀ hd, mul_right_comm, ← Int.cast_lt (R := ℚ)]
  push_cast
  rfl

theorem natCast_div_le_iff {a b c d : ℕ} (hb : 0 < b) (hd : 0 < d) : (a : ℚ) / b ≤ (c : ℚ) / d ↔ a * d ≤ c * b := by
  have hbQ : (0 : ℚ) < b := Nat.cast_pos.2 hb
  have hdQ : (0 : ℚ) < d := Nat.cast_pos.2 hd
  rw [div_le_div_iff₀ hbQ hdQ]
  norm_cast

theorem natCast_div_lt_iff {a b c d : ℕ} (hb : 0 < b) (hd : 0 < d) : (a : ℚ) / b < (c : ℚ) / d ↔ a * d < c * b := by
  rw [← not_le, natCast_div_le_iff hd hb, Nat.not_le]

/-! a positive elapsed time is a natural number: the model's `ms.toNat` and the spec's cast of `ms` are casts of the same `n` -/

theorem UpOpts.withinScale_iff (o : UpOpts) (hD : o.Dom) (num : Nat) (ms : Int) (hms : 0 < ms) :
    o.withinScale num ms.toNat ↔ minScaleQ o ≤ (num : ℚ) / (ms : ℚ) ∧ (num : ℚ) / (ms : ℚ) ≤ maxScaleQ o := by
  obtain ⟨n, rfl⟩ := Int.eq_ofNat_of_zero_le hms.le
  have hn : 0 < n := Int.natCast_pos.1 hms
  rw [minScaleQ, maxScaleQ, Int.cast_natCast, Int.toNat_natCast, natCast_div_le_iff hD.minD hn,
    natCast_div_le_iff hn hD.maxD]

theorem floor_raw (num : Nat) (ms : Int) (hms : 0 < ms) :
    ⌊(num : ℚ) / (ms : ℚ)⌋.toNat = num / ms.toNat := by
  obtain ⟨n, rfl⟩ := Int.eq_ofNat_of_zero_le hms.le
  rw [Int.cast_natCast, Rat.floor_natCast_div_natCast, Int.toNat_natCast, ← Int.natCast_div, Int.toNat_natCast]

theorem skips_iff (o : UpOpts) (hD : o.Dom) (a b : Nat) (ms : Int) :
    (b = 0 ∨ a = 0) ∨ o.skips (ticks a b) ms ↔ noVerdictCond o a b ms := by
  unfold noVerdictCond UpOpts.skips
  rw [← tolerated_iff o hD, or_assoc, Classical.not_and_iff_not_or_not, Int.not_le, Int.not_le, or_assoc]

end P0f
