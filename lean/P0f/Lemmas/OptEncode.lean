import P0f.Lemmas.SOpt
import P0f.Lemmas.TcpOptions
import P0f.Model.Impersonate
/-
  `TCPOptions.parse` on option bytes that were produced by encoding a list of option tuples
  (`encodeOpts`): the parser walks the list entry by entry.  Used for the MTU round trip (C08)
  and for the option part of C05.
-/
namespace P0f

/-- effect of one well-formed, non-EOL option on the parser state -/
def stepOpt (isSyn : Bool) (o : SOpt) (st : Opts) : Opts :=
  match o with
  | .eol => st
  | .nop => st.pushKind 1
  | .mss v => (st.pushKind 2).setMss v
  | .ws v => ((st.pushKind 3).setWs v).addQuirkIf (decide (v > 14)) .exws
  | .sackok => st.pushKind 4
  | .ts a b => (((st.pushKind 8).setTs a).addQuirkIf (a == 0) .zeroTs1).addQuirkIf (b != 0 && isSyn) .nzTs2
  | .sack _ => st.pushKind 5
  | .raw k _ => st.pushKind k

/-! big-endian fields written and read back: `v / 256 * 256 + v % 256 = v`, digit by digit -/

theorem be16_beBytes16 (v : Nat) (h : v < 65536) (rest : List Nat) : be16 (beBytes16 v ++ rest) = v := by
  show v / 256 % 256 * 256 + v % 256 = v
  rw [Nat.mod_eq_of_lt (Nat.div_lt_of_lt_mul h), Nat.div_add_mod']

theorem be32_beBytes32 (v : Nat) (h : v < 4294967296) (rest : List Nat) : be32 (beBytes32 v ++ rest) = v := by
  show ((v / (256 * 256 * 256) % 256 * 256 + v / (256 * 256) % 256) * 256 + v / 256 % 256) * 256 + v % 256 = v
  rw [Nat.mod_eq_of_lt (Nat.div_lt_of_lt_mul h), ← Nat.div_div_eq_div_mul, ← Nat.div_div_eq_div_mul,
    Nat.div_add_mod', Nat.div_add_mod', Nat.div_add_mod']

/-- one well-formed non-EOL option at the head of the buffer is consumed exactly, with effect `stepOpt`: its encoding is
    `kind, 2 + |body|, body` (`parseOptsGo_opt`), well-formed for its kind, and the value read back from the body is the
    value that was written -/
theorem parseOptsGo_encode_cons (isSyn : Bool) (o : SOpt) (hwf : o.WF) (hne : o ≠ .eol) (rest : List Nat) (st : Opts) :
    parseOptsGo isSyn (o.encode ++ rest) st = parseOptsGo isSyn rest (stepOpt isSyn o st) := by
  cases o with
  | eol => exact absurd rfl hne
  | nop => exact parseOptsGo_nop isSyn rest st
  | mss v =>
    refine (parseOptsGo_opt isSyn 2 (beBytes16 v) rest st (by decide) (by decide) rfl).trans ?_
    rw [applyValue, if_pos rfl, ← List.append_nil (beBytes16 v), be16_beBytes16 v hwf]; rfl
  | ws v =>
    refine (parseOptsGo_opt isSyn 3 [v % 256] rest st (by decide) (by decide) rfl).trans ?_
    rw [Nat.mod_eq_of_lt hwf]; rfl
  | sackok => exact parseOptsGo_opt isSyn 4 [] rest st (by decide) (by decide) rfl
  | ts a b =>
    refine (parseOptsGo_opt isSyn 8 (beBytes32 a ++ beBytes32 b) rest st (by decide) (by decide) rfl).trans ?_
    have hb : be32 ((beBytes32 a ++ beBytes32 b).drop 4) = b := be32_beBytes32 b hwf.2 []
    rw [applyValue, if_neg (by decide), if_neg (by decide), if_pos rfl, be32_beBytes32 a hwf.1, hb]; rfl
  | sack n =>
    have hw : wellFormed 5 (2 + (List.replicate n 0).length) = true := by
      simp only [wellFormed, List.length_replicate, ↓reduceIte, decide_eq_true_eq]; exact ⟨by have := hwf.1; omega, by have := hwf.2; omega⟩
    have := parseOptsGo_opt isSyn 5 (List.replicate n 0) rest st (by decide) (by decide) hw
    rwa [List.length_replicate, applyValue_of_optSize_none _ _ _ _ rfl] at this
  | raw k n =>
    obtain ⟨k0, k1, k2, k3, k4, k5, k8, hn⟩ := hwf
    have hos : optSize k = none := by simp [optSize, k2, k3, k4, k8]
    have hw : wellFormed k (2 + (List.replicate n 0).length) = true := by
      simp only [wellFormed, k5, hos, List.length_replicate, ↓reduceIte, decide_eq_true_eq]; omega
    have := parseOptsGo_opt isSyn k (List.replicate n 0) rest st k0 k1 hw
    rwa [List.length_replicate, applyValue_of_optSize_none _ _ _ _ hos] at this

theorem parseOptsGo_encode_list (isSyn : Bool) (l : List SOpt) (hwf : ∀ o ∈ l, o.WF) (hne : ∀ o ∈ l, o ≠ .eol)
    (rest : List Nat) (st : Opts) :
    parseOptsGo isSyn (l.flatMap SOpt.encode ++ rest) st = parseOptsGo isSyn rest (l.foldl (fun s o => stepOpt isSyn o s) st) := by
  induction l generalizing st with
  | nil => simp
  | cons o t ih =>
    simp only [List.flatMap_cons, List.append_assoc, List.foldl_cons]
    rw [parseOptsGo_encode_cons isSyn o (hwf o (by simp)) (hne o (by simp))]
    exact ih (fun x hx => hwf x (by simp [hx])) (fun x hx => hne x (by simp [hx])) _

/-- the walk over any encoded list: the entries before the first EOL are consumed one by one; what follows (the encoded rest,
    Scapy's padding) is empty or starts with a zero byte -/
theorem parseOpts_encodeOpts (l : List SOpt) (isSyn : Bool) (hwf : ∀ o ∈ l, o.WF) :
    ∃ tail, (tail = [] ∨ tail.head? = some 0) ∧ parseOpts (encodeOpts l) isSyn =
      parseOptsGo isSyn tail ((l.takeWhile (· ≠ .eol)).foldl (fun s o => stepOpt isSyn o s) Opts.init) := by
  have hsplit : l.flatMap SOpt.encode =
      (l.takeWhile (· ≠ .eol)).flatMap SOpt.encode ++ (l.dropWhile (· ≠ .eol)).flatMap SOpt.encode := by
    rw [← List.flatMap_append, List.takeWhile_append_dropWhile]
  refine ⟨_, ?_, by
    unfold parseOpts encodeOpts
    simp only
    rw [hsplit, List.append_assoc]
    exact parseOptsGo_encode_list isSyn _ (fun o ho => hwf o (List.takeWhile_subset _ ho))
      (fun o ho => by simpa using List.all_eq_true.1 List.all_takeWhile o ho) _ _⟩
  have hd := List.head?_dropWhile_not (· ≠ SOpt.eol) l
  cases hdw : l.dropWhile (· ≠ .eol) with
  | nil =>
    rw [List.flatMap_nil, List.nil_append]
    generalize (4 - _ % 4) % 4 = n
    cases n with
    | zero => exact .inl rfl
    | succ k => exact .inr rfl
  | cons o t =>
    rw [hdw] at hd
    cases of_decide_eq_false hd |> Classical.not_not.mp
    exact .inr rfl

/-- does this option raise quirk `q` in the option walk -/
def raises (isSyn : Bool) (q : Quirk) : SOpt → Bool
  | .ws v => decide (v > 14) && q == .exws
  | .ts a b => a == 0 && q == .zeroTs1 || (b != 0 && isSyn) && q == .nzTs2
  | _ => false

def lastMssOf (l : List SOpt) (d : Nat) : Nat := l.foldl (fun acc o => match o with | .mss v => v | _ => acc) d
def lastWsOf (l : List SOpt) (d : Nat) : Nat := l.foldl (fun acc o => match o with | .ws v => v | _ => acc) d

theorem stepOpt_fields (isSyn : Bool) (o : SOpt) (st : Opts) :
    let r := stepOpt isSyn o st
    (o ≠ .eol → r.layout = st.layout ++ [o.kind]) ∧ (∀ q, r.quirks q = (st.quirks q || raises isSyn q o)) ∧
    r.eolPad = st.eolPad ∧ r.mss = (match o with | .mss v => v | _ => st.mss) ∧
    r.ws = (match o with | .ws v => v | _ => st.ws) := by
  cases o
  case eol => exact ⟨fun h => absurd rfl h, fun _ => (Bool.or_false _).symm, rfl, rfl, rfl⟩
  all_goals
    simp only [stepOpt, raises, addQuirkIf_layout, addQuirkIf_quirks, addQuirkIf_eolPad, addQuirkIf_mss, addQuirkIf_ws,
      Bool.or_false, Bool.or_assoc]
    exact ⟨fun _ => rfl, fun _ => rfl, rfl, rfl, rfl⟩

theorem foldl_stepOpt (isSyn : Bool) (l : List SOpt) (st : Opts) :
    let r := l.foldl (fun s o => stepOpt isSyn o s) st
    ((∀ o ∈ l, o ≠ .eol) → r.layout = st.layout ++ l.map SOpt.kind) ∧
    (∀ q, r.quirks q = (st.quirks q || l.any (raises isSyn q))) ∧
    r.eolPad = st.eolPad ∧ r.mss = lastMssOf l st.mss ∧ r.ws = lastWsOf l st.ws := by
  induction l generalizing st with
  | nil => exact ⟨fun _ => (List.append_nil _).symm, fun _ => (Bool.or_false _).symm, rfl, rfl, rfl⟩
  | cons o t ih =>
    obtain ⟨hl, hq, he, hm, hw⟩ := stepOpt_fields isSyn o st
    obtain ⟨il, iq, ie, im, iw⟩ := ih (stepOpt isSyn o st)
    refine ⟨fun hne => ?_, fun q => ?_, ie.trans he, im.trans (congrArg _ hm), iw.trans (congrArg _ hw)⟩
    · rw [List.foldl_cons, il fun x hx => hne x (List.mem_cons_of_mem _ hx), hl (hne o List.mem_cons_self), List.map_cons,
        List.append_assoc, List.singleton_append]
    · rw [List.foldl_cons, iq, hq, List.any_cons, Bool.or_assoc]

theorem foldl_stepOpt_layout (isSyn : Bool) (l : List SOpt) (hne : ∀ o ∈ l, o ≠ .eol) (st : Opts) :
    (l.foldl (fun s o => stepOpt isSyn o s) st).layout = st.layout ++ l.map SOpt.kind :=
  (foldl_stepOpt isSyn l st).1 hne

theorem foldl_stepOpt_quirks (isSyn : Bool) (l : List SOpt) (st : Opts) (q : Quirk) :
    (l.foldl (fun s o => stepOpt isSyn o s) st).quirks q = (st.quirks q || l.any (raises isSyn q)) :=
  (foldl_stepOpt isSyn l st).2.1 q

theorem foldl_stepOpt_eolPad (isSyn : Bool) (l : List SOpt) (st : Opts) :
    (l.foldl (fun s o => stepOpt isSyn o s) st).eolPad = st.eolPad :=
  (foldl_stepOpt isSyn l st).2.2.1

theorem foldl_stepOpt_mss (isSyn : Bool) (l : List SOpt) (st : Opts) :
    (l.foldl (fun s o => stepOpt isSyn o s) st).mss = lastMssOf l st.mss :=
  (foldl_stepOpt isSyn l st).2.2.2.1

theorem foldl_stepOpt_ws (isSyn : Bool) (l : List SOpt) (st : Opts) :
    (l.foldl (fun s o => stepOpt isSyn o s) st).ws = lastWsOf l st.ws :=
  (foldl_stepOpt isSyn l st).2.2.2.2

theorem lastMssOf_mem (l : List SOpt) (d : Nat) :
    (SOpt.mss (lastMssOf l d) ∈ l) ∨ (lastMssOf l d = d ∧ ∀ v, SOpt.mss v ∉ l) := by
  induction l generalizing d with
  | nil => exact .inr ⟨rfl, fun _ => List.not_mem_nil⟩
  | cons o t ih =>
    rcases ih (match o with | .mss v => v | _ => d) with h | ⟨h1, h2⟩
    · exact .inl (List.mem_cons_of_mem _ h)
    · cases o with
      | mss v => exact .inl (List.mem_cons.2 (.inl (congrArg _ h1)))
      | _ => exact .inr ⟨h1, fun v hv => h2 v (by simpa using hv)⟩

theorem lastMssOf_no_mss (t : List SOpt) (d : Nat) (h : t.any SOpt.isMss = false) : lastMssOf t d = d := by
  rcases lastMssOf_mem t d with hm | ⟨hd, _⟩
  · exact absurd (List.any_eq_true.mpr ⟨_, hm, rfl⟩) (by rw [h]; exact Bool.false_ne_true)
  · exact hd

theorem lastMssOf_append (l t : List SOpt) (d : Nat) : lastMssOf (l ++ t) d = lastMssOf t (lastMssOf l d) :=
  List.foldl_append

/-- `dict(new_options).get("MSS")` is the last MSS of the list as soon as there is one -/
theorem foldl_lastMssStep (l : List SOpt) (acc : Option Nat) (d : Nat) :
    l.foldl lastMssStep acc = if l.any SOpt.isMss then some (lastMssOf l d) else acc := by
  induction l generalizing acc d with
  | nil => rfl
  | cons o t ih =>
    rw [List.foldl_cons, List.any_cons, lastMssOf, List.foldl_cons]
    cases o with
    | mss v =>
      rw [ih _ v, lastMssOf]
      cases ht : t.any SOpt.isMss
      · exact congrArg some (lastMssOf_no_mss t v ht).symm
      · rfl
    | _ => exact ih _ d

theorem lastMss_eq_lastMssOf {l : List SOpt} (h : l.any SOpt.isMss = true) : lastMss l = some (lastMssOf l 0) :=
  (foldl_lastMssStep l none 0).trans (if_pos h)

theorem lastWsOf_mem (l : List SOpt) (d : Nat) :
    (SOpt.ws (lastWsOf l d) ∈ l) ∨ (lastWsOf l d = d ∧ ∀ v, SOpt.ws v ∉ l) := by
  induction l generalizing d with
  | nil => exact .inr ⟨rfl, fun _ => List.not_mem_nil⟩
  | cons o t ih =>
    rcases ih (match o with | .ws v => v | _ => d) with h | ⟨h1, h2⟩
    · exact .inl (List.mem_cons_of_mem _ h)
    · cases o with
      | ws v => exact .inl (List.mem_cons.2 (.inl (congrArg _ h1)))
      | _ => exact .inr ⟨h1, fun v hv => h2 v (by simpa using hv)⟩

theorem encodeOpts_len4 (l : List SOpt) : (encodeOpts l).length % 4 = 0 := by
  unfold encodeOpts
  simp only [List.length_append, List.length_replicate]
  omega

theorem flatMap_encode_length (l : List SOpt) : (l.flatMap SOpt.encode).length = (l.map SOpt.wireLen).sum :=
  List.length_flatMap

/-- Scapy pads nothing when the options fill a multiple of four bytes -/
theorem encodeOpts_of_aligned (l : List SOpt) (h : (l.map SOpt.wireLen).sum % 4 = 0) :
    encodeOpts l = l.flatMap SOpt.encode := by
  unfold encodeOpts
  simp only [flatMap_encode_length, h]
  simp

end P0f
