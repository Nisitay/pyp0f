import P0f.Model.Impersonate
/-
  A successful run of `impTcp`, field by field (`RunFields`), what `choicesOk` asks of each draw the run uses (`Draws`),
  and from the two, for every field that may take a drawn value: which condition on it extraction will see, and that
  it fits the header field it is written into (`RunFields.flags_spec` is in Props/C05: it needs `Admissible`).
-/
namespace P0f

structure RunFields (s : Sig) (b : Base) (hops : Int) (mtu : Nat) (up : Option Int) (c : Choices) (o : OutPkt) : Prop where
  ipVer : o.ipVer = b.ipVer
  src : o.src = b.src
  dst : o.dst = b.dst
  sport : o.sport = b.sport
  dport : o.dport = b.dport
  ttl : o.ttl = (s.ttl : Int) - hops
  tos : o.tos = if s.quirks .ecn then c.ecn else 0
  ipId : o.ipId = if b.ipVer == 6 then 0 else impIpId s b c
  ipFlags : o.ipFlags = if b.ipVer == 6 then 0 else impIpFlags s b.ipFlags
  ipFrag : o.ipFrag = if b.ipVer == 6 then 0 else b.ipFrag
  ipOptLen : o.ipOptLen = if b.ipVer == 6 then 0 else s.olen
  fl : o.fl = if b.ipVer == 6 then (if s.quirks .flow then c.fl else 0) else 0
  seq : o.seq = impSeq s b c
  ack : o.ack = impAck s b c
  flags : o.flags = impFlags s b.flags
  urp : o.urp = impUrp s b c
  opts : o.opts = impOptions s b up c
  payload : o.payload = impPayload s b c
  window : impWindow s b (impOptions s b up c) mtu c = .ok o.window

section
variable {s : Sig} {b : Base} {hops : Int} {mtu : Nat} {up : Option Int} {c : Choices} {o : OutPkt}

theorem impTcp_fields (h : impTcp s b hops mtu up c = .ok o) : RunFields s b hops mtu up c o := by
  unfold impTcp at h
  split at h
  · cases h
  · simp only at h
    split at h
    · cases h
    · next win hwin =>
      cases h
      exact ⟨rfl, rfl, rfl, rfl, rfl, rfl, rfl, rfl, rfl, rfl, rfl, rfl, rfl, rfl, rfl, rfl, rfl, rfl, hwin⟩

theorem impTcp_isOk {win : Nat} (hv : s.ipVer = none ∨ s.ipVer = some b.ipVer)
    (hw : impWindow s b (impOptions s b up c) mtu c = .ok win) : ∃ o, impTcp s b hops mtu up c = .ok o ∧ o.window = win := by
  have hver : (s.ipVer.isSome && s.ipVer != some b.ipVer) = false := by rcases hv with h | h <;> simp [h]
  unfold impTcp
  simp only [hver, hw]
  exact ⟨_, rfl, rfl⟩

structure Draws (s : Sig) (b : Base) (up : Option Int) (c : Choices) : Prop where
  fl : b.ipVer = 6 → s.quirks .flow = true → 1 ≤ c.fl ∧ c.fl < 1048576
  id : b.ipVer ≠ 6 → b.ipId = 0 → (s.quirks .df = true → s.quirks .nzId = true) →
    (s.quirks .df = false → s.quirks .zeroId = false) → 1 ≤ c.id ∧ c.id < 65536
  ecn : s.quirks .ecn = true → 1 ≤ c.ecn ∧ c.ecn < 4
  seq : s.quirks .zeroSeq = false → b.seq = 0 → 1 ≤ c.seq ∧ c.seq < 4294967296
  ack : s.quirks .nzAck = true → b.ack = 0 → 1 ≤ c.ack ∧ c.ack < 4294967296
  urp : s.quirks .nzUrg = true → b.urp = 0 → 1 ≤ c.urp ∧ c.urp < 65536
  winMul : s.wtype = .mod → 1 ≤ c.winMul ∧ c.winMul ≤ 65535 / s.wsize
  payload : s.payClass = some true → b.payload.isEmpty = true → 1 ≤ c.payload.length ∧ c.payload.length ≤ 1000
  opt : optChoicesOkGo s b up s.layout c.opt = true

theorem choicesOk_parts (h : choicesOk s b up c = true) : Draws s b up c := by
  unfold choicesOk at h
  simp only [Bool.and_eq_true] at h
  obtain ⟨⟨⟨⟨⟨⟨⟨hip, hecn⟩, hseq⟩, hack⟩, hurp⟩, hwin⟩, hpay⟩, hopt⟩ := h
  refine ⟨fun h6 hf => ?_, fun h6 hid h1 h2 => ?_, fun he => ?_, fun hz hb => ?_, fun hn hb => ?_, fun hn hb => ?_, fun hw => ?_,
    fun hp hb => ?_, hopt⟩
  · simpa [h6, hf] using hip
  · have h6' : (b.ipVer == 6) = false := by simpa using h6
    cases hd : s.quirks .df
    · simpa [h6', hid, hd, h2 hd] using hip
    · simpa [h6', hid, hd, h1 hd] using hip
  · simpa [he] using hecn
  · simpa [hz, hb] using hseq
  · simpa [hn, hb] using hack
  · simpa [hn, hb] using hurp
  · simpa [hw] using hwin
  · simpa [hp, hb] using hpay

/-! ### the fields that may take a drawn value

  Each keeps the base's value unless that is zero and the signature wants a non-zero one; then an in-range draw is non-zero and
  fits the field.  For each field: when it is zero, in terms of the signature's quirks, and that it fits. -/

theorem pick_spec {x d n : Nat} (h : x = 0 → 1 ≤ d ∧ d < n) :
    ((if x == 0 then d else x) == 0) = false ∧ (x < n → (if x == 0 then d else x) < n) := by
  by_cases hx : x = 0
  · have := h hx
    rw [if_pos (beq_iff_eq.mpr hx)]
    exact ⟨beq_eq_false_iff_ne.mpr (by omega), fun _ => this.2⟩
  · rw [if_neg (mt beq_iff_eq.mp hx)]
    exact ⟨beq_eq_false_iff_ne.mpr hx, id⟩

variable (hf : RunFields s b hops mtu up c o) (d : Draws s b up c)
include hf d

theorem RunFields.seq_spec : (o.seq == 0) = s.quirks .zeroSeq ∧ (b.seq < 4294967296 → o.seq < 4294967296) := by
  rw [hf.seq, impSeq]
  cases hz : s.quirks .zeroSeq <;> simp only [Bool.false_eq_true, ↓reduceIte]
  · exact pick_spec (d.seq hz)
  · exact ⟨rfl, fun _ => by decide⟩

theorem RunFields.ack_spec :
    (o.ack == 0) = (!s.quirks .nzAck && (s.quirks .zeroAck || b.ack == 0)) ∧ (b.ack < 4294967296 → o.ack < 4294967296) := by
  rw [hf.ack, impAck]
  cases hn : s.quirks .nzAck <;> simp only [Bool.false_eq_true, ↓reduceIte]
  · cases s.quirks .zeroAck <;> simp only [Bool.false_eq_true, ↓reduceIte]
    · exact ⟨rfl, id⟩
    · exact ⟨rfl, fun _ => by decide⟩
  · exact pick_spec (d.ack hn)

theorem RunFields.urp_spec : (o.urp == 0) = (!s.quirks .nzUrg && b.urp == 0) ∧ (b.urp < 65536 → o.urp < 65536) := by
  rw [hf.urp, impUrp]
  cases hn : s.quirks .nzUrg <;> simp only [Bool.false_eq_true, ↓reduceIte]
  · exact ⟨rfl, id⟩
  · exact pick_spec (d.urp hn)

theorem RunFields.ipId_spec :
    (o.ipId == 0) = (b.ipVer == 6 || if s.quirks .df then !s.quirks .nzId else s.quirks .zeroId) ∧
      (b.ipId < 65536 → o.ipId < 65536) := by
  rw [hf.ipId]
  by_cases h6 : b.ipVer = 6
  · rw [if_pos (beq_iff_eq.mpr h6), beq_iff_eq.mpr h6]
    exact ⟨rfl, fun _ => by decide⟩
  · rw [if_neg (mt beq_iff_eq.mp h6), beq_eq_false_iff_ne.mpr h6, impIpId]
    cases hd : s.quirks .df <;> simp only [Bool.false_eq_true, ↓reduceIte, Bool.false_or]
    · cases hz : s.quirks .zeroId <;> simp only [Bool.false_eq_true, ↓reduceIte]
      · exact pick_spec fun h0 => d.id h6 h0 (fun h => nomatch hd.symm.trans h) fun _ => hz
      · exact ⟨rfl, fun _ => by decide⟩
    · cases hn : s.quirks .nzId <;> simp only [Bool.false_eq_true, ↓reduceIte]
      · exact ⟨rfl, fun _ => by decide⟩
      · exact pick_spec fun h0 => d.id h6 h0 (fun _ => hn) fun h => nomatch hd.symm.trans h

theorem RunFields.tos_spec : (o.tos % 4 != 0) = s.quirks .ecn ∧ o.tos < 256 := by
  rw [hf.tos]
  cases he : s.quirks .ecn <;> simp only [Bool.false_eq_true, ↓reduceIte]
  · exact ⟨rfl, by decide⟩
  · have := d.ecn he
    exact ⟨bne_iff_ne.mpr (by omega), by omega⟩

theorem RunFields.fl_spec : (o.fl == 0) = !(b.ipVer == 6 && s.quirks .flow) ∧ o.fl < 1048576 := by
  rw [hf.fl]
  by_cases h6 : b.ipVer = 6
  · rw [if_pos (beq_iff_eq.mpr h6), beq_iff_eq.mpr h6]
    cases hq : s.quirks .flow <;> simp only [Bool.false_eq_true, ↓reduceIte]
    · exact ⟨rfl, by decide⟩
    · have := d.fl h6 hq
      exact ⟨beq_eq_false_iff_ne.mpr (by omega), this.2⟩
  · rw [if_neg (mt beq_iff_eq.mp h6), beq_eq_false_iff_ne.mpr h6]
    exact ⟨rfl, by decide⟩

-- 59000 and 60000 are the bounds of `Base.Fits.payload` and `OutPkt.Fits.payload`; a drawn payload has at most 1000 bytes
theorem RunFields.payload_spec :
    (∀ p, s.payClass = some p → (!o.payload.isEmpty) = p) ∧ (b.payload.length ≤ 59000 → o.payload.length ≤ 60000) := by
  rw [hf.payload, impPayload]
  rcases hp : s.payClass with _ | _ | _ <;> simp only [Option.some.injEq, reduceCtorEq, false_implies, forall_eq', implies_true, true_and]
  · omega
  · exact ⟨rfl, fun _ => by decide⟩
  · by_cases hb : b.payload.isEmpty = true
    · have := d.payload hp hb
      rw [if_pos hb]
      exact ⟨by rw [Bool.not_eq_true', List.isEmpty_eq_false_iff, ← List.length_pos_iff]; exact this.1, fun _ => by omega⟩
    · rw [if_neg hb]
      exact ⟨by simpa using hb, fun h => by omega⟩

end

/-- Scapy's padding of the IP options: to a multiple of four, nothing if it is one already -/
theorem ipOptBytes_len (n : Nat) :
    (ipOptBytes n).length % 4 = 0 ∧ (n ≤ 40 → (ipOptBytes n).length ≤ 40) ∧ (n % 4 = 0 → (ipOptBytes n).length = n) := by
  simp only [ipOptBytes, List.length_append, List.length_replicate]
  omega

end P0f
