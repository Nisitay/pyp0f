import P0f.Model.Q
/-
  Facts about the model's exact rationals `Q` (Model/Q.lean) alone.
-/
namespace P0f

theorem Q.le_mk (n n' : Int) (d d' : Nat) : Q.le ⟨n, d⟩ ⟨n', d'⟩ = decide (n * d' ≤ n' * d) := rfl

/-- comparing two fractions of naturals is cross-multiplication in `Nat` -/
theorem Q.le_mk_natCast (a b c d : Nat) : Q.le ⟨(a : Int), b⟩ ⟨(c : Int), d⟩ = decide (a * d ≤ c * b) := by
  simp only [Q.le, ← Int.natCast_mul, Int.ofNat_le]

theorem Q.div_ofInt (a : Q) {m : Int} (hm : 0 < m) : a.div (Q.ofInt m) = ⟨a.num, a.den * m.toNat⟩ := by
  simp only [Q.div, Q.ofInt, gt_iff_lt, hm, if_true, Int.natCast_one, Int.mul_one]

theorem Q.trunc_natCast (n d : Nat) : Q.trunc ⟨(n : Int), d⟩ = ((n / d : Nat) : Int) :=
  Int.tdiv_eq_ediv_of_nonneg (Int.natCast_nonneg n)

theorem isZero_ofInt (x : Int) : Q.isZero (Q.ofInt x) = (x == 0) := rfl

end P0f
