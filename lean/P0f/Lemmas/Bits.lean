import P0f.Model.Impersonate
/-
  The model spells flag tests and flag updates arithmetically (`bit v m = v / m % 2 == 1`, `setBit` adds the mask,
  `clearBit` subtracts it); the code spells them with `&`, `|`, `^`.  On a one-bit mask `2 ^ k` the two agree for every
  natural number, and everything else about flag words follows from `Nat.testBit`.  A literal mask is reached by giving
  the exponent: `bit_two_pow _ 4 : bit v 16 = v.testBit 4`.
-/
namespace P0f

theorem bit_two_pow (v k : Nat) : bit v (2 ^ k) = v.testBit k := by
  unfold bit
  rw [Nat.testBit_eq_decide_div_mod_eq, Bool.beq_eq_decide_eq]

theorem or_two_pow_of_not_testBit {v k : Nat} (h : v.testBit k = false) : v ||| 2 ^ k = v + 2 ^ k := by
  -- split `v` at bit `k + 1`: the low part is below `2 ^ k` (bit `k` is clear), so on it OR is addition; the high part stays
  have hr : v % 2 ^ (k + 1) < 2 ^ k := by
    rw [Nat.testBit_eq_decide_div_mod_eq, decide_eq_false_iff_not] at h
    rw [Nat.mod_pow_succ, show v / 2 ^ k % 2 = 0 by omega]
    exact Nat.mod_lt _ (Nat.two_pow_pos k)
  have hk : 2 ^ k < 2 ^ (k + 1) := Nat.pow_lt_pow_succ (by decide)
  rw [← Nat.div_add_mod (v ||| 2 ^ k) (2 ^ (k + 1)), Nat.or_div_two_pow, Nat.or_mod_two_pow, Nat.mod_eq_of_lt hk,
    Nat.div_eq_of_lt hk, Nat.or_zero, Nat.or_two_pow_eq_add_of_lt hr, ← Nat.add_assoc, Nat.div_add_mod]

theorem setBit_two_pow (v k : Nat) : setBit v (2 ^ k) = v ||| 2 ^ k := by
  unfold setBit
  rw [bit_two_pow]
  cases h : v.testBit k
  · exact (or_two_pow_of_not_testBit h).symm
  · apply Nat.eq_of_testBit_eq
    intro i
    rw [Nat.testBit_or, Nat.testBit_two_pow]
    by_cases hi : k = i
    · subst hi; simp [h]
    · simp [hi]

theorem and_two_pow (v k : Nat) : v &&& 2 ^ k = if v.testBit k then 2 ^ k else 0 := by
  apply Nat.eq_of_testBit_eq
  intro i
  rw [Nat.testBit_and, Nat.testBit_two_pow]
  by_cases hi : k = i
  · subst hi; cases v.testBit k <;> simp
  · cases v.testBit k <;> simp [hi]

theorem testBit_xor_and (v m i : Nat) : (v ^^^ (v &&& m)).testBit i = (v.testBit i && !m.testBit i) := by
  rw [Nat.testBit_xor, Nat.testBit_and]
  cases v.testBit i <;> cases m.testBit i <;> rfl

theorem clearBit_two_pow (v k : Nat) : clearBit v (2 ^ k) = v ^^^ (v &&& 2 ^ k) := by
  unfold clearBit
  rw [bit_two_pow, and_two_pow]
  cases h : v.testBit k
  · simp
  · -- the word without the bit, plus the bit, is `v` again
    have hc : (v ^^^ 2 ^ k).testBit k = false := by rw [Nat.testBit_xor, Nat.testBit_two_pow_self, h]; rfl
    have hv : (v ^^^ 2 ^ k) ||| 2 ^ k = v := by
      apply Nat.eq_of_testBit_eq
      intro i
      rw [Nat.testBit_or, Nat.testBit_xor, Nat.testBit_two_pow]
      by_cases hi : k = i
      · subst hi; simp [h]
      · simp [hi]
    rw [or_two_pow_of_not_testBit hc] at hv
    simp only [if_true]
    omega

theorem testBit_setBit (v k j : Nat) : (setBit v (2 ^ k)).testBit j = (v.testBit j || decide (k = j)) := by
  rw [setBit_two_pow, Nat.testBit_or, Nat.testBit_two_pow]

theorem testBit_clearBit (v k j : Nat) : (clearBit v (2 ^ k)).testBit j = (v.testBit j && !decide (k = j)) := by
  rw [clearBit_two_pow, testBit_xor_and, Nat.testBit_two_pow]

/-- a bit the signature may dictate: cleared if `c`, else set if `s`, else left alone -/
theorem testBit_dictate (c s : Bool) (v k j : Nat) :
    (if c then clearBit v (2 ^ k) else if s then setBit v (2 ^ k) else v).testBit j =
      if k = j then !c && (s || v.testBit j) else v.testBit j := by
  cases c <;> cases s <;> by_cases h : k = j <;> simp [testBit_setBit, testBit_clearBit, h]

/-- a bit the signature fixes: set if `c`, cleared otherwise -/
theorem testBit_assign (c : Bool) (v k j : Nat) :
    (if c then setBit v (2 ^ k) else clearBit v (2 ^ k)).testBit j = if k = j then c else v.testBit j := by
  cases c <;> by_cases h : k = j <;> simp [testBit_setBit, testBit_clearBit, h]

/-- clearing the bits of `a ||| b`, in the code's spelling `v ^ (v & m)`, is clearing those of `a` and then those of `b` -/
theorem xor_and_or (v a b : Nat) :
    v ^^^ (v &&& (a ||| b)) = (v ^^^ (v &&& a)) ^^^ ((v ^^^ (v &&& a)) &&& b) := by
  apply Nat.eq_of_testBit_eq
  intro i
  simp only [testBit_xor_and, Nat.testBit_or]
  cases v.testBit i <;> cases a.testBit i <;> cases b.testBit i <;> rfl

/-- a bit test does not see multiples of the next bit's weight (the higher bits) -/
theorem bit_mul_add (k n r m : Nat) (h : m * 2 ∣ n) : bit (k * n + r) m = bit r m := by
  obtain ⟨j, rfl⟩ := h
  unfold bit
  rcases Nat.eq_zero_or_pos m with rfl | hm
  · simp
  · rw [show k * (m * 2 * j) = m * (2 * (j * k)) by ac_rfl, Nat.mul_add_div hm, Nat.mul_add_mod]

/-- the nine one-bit masks of the TCP flag word, as the statements about them list them -/
theorem flagMask_pow {m : Nat} (hm : m = 1 ∨ m = 2 ∨ m = 4 ∨ m = 8 ∨ m = 16 ∨ m = 32 ∨ m = 64 ∨ m = 128 ∨ m = 256) :
    m = 2 ^ m.log2 := by
  rcases hm with rfl | rfl | rfl | rfl | rfl | rfl | rfl | rfl | rfl <;> decide

theorem tcpType_eq (f : Nat) :
    tcpType f = (if bit f F_SYN then F_SYN else 0) ||| (if bit f F_ACK then F_ACK else 0) |||
      (if bit f F_FIN then F_FIN else 0) ||| (if bit f F_RST then F_RST else 0) := by
  simp only [tcpType, Nat.and_or_distrib_left, F_SYN, F_ACK, F_FIN, F_RST, and_two_pow _ 1, and_two_pow _ 4,
    and_two_pow _ 0, and_two_pow _ 2, bit_two_pow _ 1, bit_two_pow _ 4, bit_two_pow _ 0, bit_two_pow _ 2]

theorem tcpType_syn (f : Nat) :
    (tcpType f == F_SYN) = (bit f F_SYN && !bit f F_ACK && !bit f F_FIN && !bit f F_RST) := by
  rw [tcpType_eq]
  cases bit f F_SYN <;> cases bit f F_ACK <;> cases bit f F_FIN <;> cases bit f F_RST <;> rfl

end P0f
