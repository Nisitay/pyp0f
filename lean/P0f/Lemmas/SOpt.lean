import P0f.Model.ScapyOpts
namespace P0f

/-- option kind as it appears in a layout -/
def SOpt.kind : SOpt → Nat
  | .eol => 0 | .nop => 1 | .mss _ => 2 | .ws _ => 3 | .sackok => 4 | .ts _ _ => 8 | .sack _ => 5 | .raw k _ => k

/-- the tuple encodes to a well-formed option: values fit their fields, SACK length 10..34,
    unknown kinds really unknown, length ≤ 40 -/
def SOpt.WF : SOpt → Prop
  | .eol => True
  | .nop => True
  | .mss v => v < 65536
  | .ws v => v < 256
  | .sackok => True
  | .ts a b => a < 4294967296 ∧ b < 4294967296
  | .sack n => 8 ≤ n ∧ n ≤ 32
  | .raw k n => k ≠ 0 ∧ k ≠ 1 ∧ k ≠ 2 ∧ k ≠ 3 ∧ k ≠ 4 ∧ k ≠ 5 ∧ k ≠ 8 ∧ n ≤ 38

end P0f
