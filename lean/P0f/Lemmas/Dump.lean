import P0f.Lemmas.SigParse
/-
  The names `TCPOptions.dump` and `dump_quirks` print: each is made of `nameChar`s, so no separator of the signature grammar
  occurs in it, and each is read back (`parseOptionItem`, `quirkOfName`) as what was printed.
-/
namespace P0f
open P0f.Py

/-- characters of a printed layout entry or quirk name: letters, digits, `+`, `-`, `?`; in particular no separator -/
def nameChar (c : Char) : Bool := c.isAlphanum || c == '+' || c == '-' || c == '?'

theorem natStr_nameChar (n : Nat) : ∀ c ∈ natStr n, nameChar c = true := by
  intro c hc
  simp [nameChar, Char.isAlphanum, natStr_digits n c hc]

theorem not_mem_of_nameChar {s : List Char} (h : ∀ c ∈ s, nameChar c = true) {d : Char} (hd : nameChar d = false) :
    d ∉ s := fun hm => by rw [h d hm] at hd; cases hd

/-- `_STRING_QUIRKS` against `QUIRK_STRINGS`, row by row: every printed quirk name is read back as its quirk, is not empty and
    has no separator -/
theorem quirk_str_table (q : Quirk) :
    quirkOfName q.str = some q ∧ q.str ≠ [] ∧ ∀ c ∈ q.str, nameChar c = true :=
  (by decide +kernel : ∀ q ∈ Quirk.all, quirkOfName q.str = some q ∧ q.str ≠ [] ∧ ∀ c ∈ q.str, nameChar c = true)
    q (Quirk.mem_all q)

/-- the same for a printed layout entry (`eol+pad`, one of the six names of `OPTION_STRINGS`, or `?kind`) -/
theorem dumpOption_table (pad k : Nat) :
    (k ≤ 255 → pad ≤ 255 → parseOptionItem (dumpOption pad k) = some (k, if k = 0 then some pad else none)) ∧
      dumpOption pad k ≠ [] ∧ ∀ c ∈ dumpOption pad k, nameChar c = true := by
  unfold dumpOption
  by_cases h0 : k = 0
  · subst h0
    refine ⟨fun _ hp => ?_, nofun, List.forall_mem_append.mpr ⟨by decide, natStr_nameChar pad⟩⟩
    simp [parseOptionItem, startsWith, parseNumberN_natStr (Nat.zero_le _) hp]
  · rw [if_neg h0, if_neg h0]
    by_cases hm : k ∈ [1, 2, 3, 4, 5, 8]
    · have := (by decide +kernel : ∀ k ∈ [1, 2, 3, 4, 5, 8],
        parseOptionItem (optName k) = some (k, none) ∧ optName k ≠ [] ∧ ∀ c ∈ optName k, nameChar c = true) k hm
      exact ⟨fun _ _ => this.1, this.2⟩
    · simp only [List.mem_cons, List.not_mem_nil, or_false, not_or] at hm
      simp only [optName, hm, ↓reduceIte]
      refine ⟨fun hk _ => ?_, List.cons_ne_nil _ _, List.forall_mem_cons.mpr ⟨rfl, natStr_nameChar k⟩⟩
      simp [parseOptionItem, startsWith, parseNumberN_natStr (Nat.zero_le _) hk]

/-- a printed list of such names (`",".join`) is read back item by item by `[] if not field else field.split(",")` -/
theorem commaField_names {α : Type} (f : α → List Char) (l : List α)
    (h : ∀ x ∈ l, f x ≠ [] ∧ ∀ c ∈ f x, nameChar c = true) :
    (if (joinComma (l.map f)).isEmpty then [] else split ',' (joinComma (l.map f))) = l.map f :=
  commaField_joinComma (by simpa using fun x hx => not_mem_of_nameChar (h x hx).2 rfl)
    (by cases l with | nil => simp | cons x t => simp [(h x (by simp)).1])

theorem startsWith_cons (c : Char) (s : List Char) : startsWith (c :: s) [c] = true := by
  simp [startsWith]

end P0f
