import P0f.Model.Gate
/-
  Facts about `Model/Gate` alone.  `tcpType` in terms of `bit` (`tcpType_eq`, `tcpType_syn`) needs `Model/Wire` and is in
  `Lemmas/Bits`.
-/
namespace P0f

/-- on the packet types the fingerprint functions admit, `should_fingerprint` only asks for a non-fragment -/
theorem shouldFingerprint_of_type {t : Nat} (ht : t = F_SYN ∨ t = F_SYN ||| F_ACK ∨ t = F_ACK) (frag : Bool) :
    shouldFingerprint frag t = !frag := by
  rcases ht with rfl | rfl | rfl <;> cases frag <;> rfl

theorem tcpType_idem (f : Nat) : tcpType (tcpType f) = tcpType f := by
  unfold tcpType; rw [Nat.and_assoc, Nat.and_self]

end P0f
