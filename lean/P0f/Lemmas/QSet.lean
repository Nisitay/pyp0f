import P0f.Model.Wire
/-
  Quirk sets evaluated at one quirk, and the three quirk sets pyp0f builds from header fields
  (`IP._from_ipv4`, `IP._from_ipv6`, `TCP.from_packet`) as functions of those fields.  The byte-level model
  (`ipv4Layer`, `ipv6Layer`, `tcpLayer`), the field-level restatement (`ipv4Fields`, ..) and the extraction of the
  impersonator's output (`outIpQuirks`, `outTcpQuirks`) are all instances, by `rfl`.
-/
namespace P0f

theorem quirk_beq (a b : Quirk) : (a == b) = decide (a = b) := rfl

namespace QSet
theorem beq_iff (a b : QSet) : a.beq b = true ↔ ∀ q, a q = b q := by
  simp only [QSet.beq, List.all_eq_true, beq_iff_eq]
  exact ⟨fun h q => h q (Quirk.mem_all q), fun h q _ => h q⟩

theorem isEmpty_iff (a : QSet) : a.isEmpty = true ↔ ∀ q, a q = false := by
  simp only [QSet.isEmpty, List.all_eq_true, Bool.not_eq_true']
  exact ⟨fun h q => h q (Quirk.mem_all q), fun h q _ => h q⟩

@[simp] theorem empty_apply (q : Quirk) : QSet.empty q = false := rfl
@[simp] theorem union_apply (a b : QSet) (q : Quirk) : a.union b q = (a q || b q) := rfl
@[simp] theorem insert_apply (a : QSet) (x q : Quirk) : a.insert x q = (a q || q == x) := rfl
theorem ofList_apply (l : List Quirk) (q : Quirk) : QSet.ofList l q = l.contains q := rfl
theorem ite_apply (c : Prop) [Decidable c] (a b : QSet) (q : Quirk) : (if c then a else b) q = if c then a q else b q :=
  apply_ite (· q) c a b

theorem inter_compl_apply (a b : QSet) (q : Quirk) : (a.inter b.compl) q = true ↔ a q = true ∧ b q = false := by
  simp only [QSet.inter, QSet.compl, Bool.and_eq_true, Bool.not_eq_true']

theorem isEmpty_inter_compl (x : QSet) (l : List Quirk) :
    (x.inter (QSet.ofList l).compl).isEmpty = true ↔ ∀ q, x q = true → q ∈ l := by
  rw [QSet.isEmpty_iff]
  refine forall_congr' fun q => ?_
  cases h : x q <;> simp [QSet.inter, QSet.compl, QSet.ofList, h]

theorem foldl_insert_apply (L : List Quirk) (acc : QSet) (q : Quirk) :
    (L.foldl QSet.insert acc) q = (acc q || L.contains q) := by
  induction L generalizing acc with
  | nil => simp
  | cons a t ih =>
    simp only [List.foldl_cons, ih, QSet.insert, List.contains_cons]
    cases acc q <;> cases h : (q == a) <;> simp

end QSet

/-! singleton sets: the printed code builds and tests quirk sets one flag at a time (`Quirk.X in quirks`, `quirks |= Quirk.X`) -/

theorem qofList_single (k q : Quirk) : QSet.ofList [k] q = (q == k) := by
  simp only [QSet.ofList, List.contains_cons, List.contains_nil, Bool.or_false]

theorem subsetOf_single (q : Quirk) (s : QSet) : QSet.subsetOf (QSet.ofList [q]) s = s q := by
  rw [QSet.subsetOf, Bool.eq_iff_iff, QSet.beq_iff]
  constructor
  · intro h; simpa [QSet.inter, qofList_single] using h q
  · intro h x
    by_cases hx : x = q
    · subst hx; simp [QSet.inter, qofList_single, h]
    · simp [QSet.inter, qofList_single, hx]

theorem qinsert_eq_union (a : QSet) (q : Quirk) : a.insert q = a.union (QSet.ofList [q]) := by
  funext x; simp only [QSet.insert, QSet.union, qofList_single]

theorem qIf_apply (c : Bool) (x q : Quirk) : qIf c x q = (c && decide (q = x)) := by
  cases c <;> simp [qIf, QSet.ofList]

theorem qset_ofList_union (a b : List Quirk) : (QSet.ofList a).union (QSet.ofList b) = QSet.ofList (a ++ b) := by
  funext q; simp [QSet.union, QSet.ofList]

theorem qbeq_comm (a b : QSet) : a.beq b = b.beq a := by
  simp only [QSet.beq]; congr 1; funext q; cases a q <;> cases b q <;> rfl
theorem qxor_comm (a b : QSet) : a.xor b = b.xor a := by
  funext q; simp only [QSet.xor]; cases a q <;> cases b q <;> rfl

/-! both spellings of a set difference in the matching code normalise to `a ∩ ¬b` -/
theorem qxor_inter_left (a b : QSet) : (a.xor b).inter a = a.inter b.compl := by
  funext q; simp only [QSet.xor, QSet.inter, QSet.compl]; cases a q <;> cases b q <;> rfl
theorem qxor_inter_right (a b : QSet) : (a.xor b).inter b = b.inter a.compl := by
  rw [qxor_comm, qxor_inter_left]
theorem qinter_xor_left (a b : QSet) : a.inter (a.xor b) = a.inter b.compl := by
  funext q; simp only [QSet.xor, QSet.inter, QSet.compl]; cases a q <;> cases b q <;> rfl
theorem qinter_xor_right (a b : QSet) : b.inter (a.xor b) = b.inter a.compl := by
  rw [qxor_comm, qinter_xor_left]

theorem qcompl_union (a b : QSet) : (a.union b).compl = a.compl.inter b.compl := by
  funext q; simp only [QSet.union, QSet.inter, QSet.compl]; cases a q <;> cases b q <;> rfl

theorem qunion_apply_at (a b : QSet) (q : Quirk) : (a.union b) q = (a q || b q) := QSet.union_apply a b q
theorem qempty_apply_at (q : Quirk) : QSet.empty q = false := QSet.empty_apply q

/-- `if c: quirks |= b` adds the guarded set: the running set is not copied into both branches, so a chain of such statements
    stays linear in size -/
theorem qunion_ite (c : Prop) [Decidable c] (a b : QSet) :
    (if c then a.union b else a) = a.union (if c then b else QSet.empty) := by
  split
  · rfl
  · funext q; simp [QSet.union, QSet.empty]
theorem ite_qunion (c : Prop) [Decidable c] (a s t : QSet) :
    (if c then a.union s else a.union t) = a.union (if c then s else t) := by
  split <;> rfl
theorem qunion_assoc (a b c : QSet) : (a.union b).union c = a.union (b.union c) := by
  funext q; simp only [QSet.union_apply, Bool.or_assoc]
/-- `IP._from_ipv4`: quirks from the TOS byte, the evil and DF bits and the identification -/
def ip4Q (tos : Nat) (evil df : Bool) (ident : Nat) : QSet :=
  (qIf (tos % 4 != 0) .ecn).union <| (qIf evil .nzMbz).union <|
    (qIf df .df).union <| (qIf (df && ident != 0) .nzId).union (qIf (!df && ident == 0) .zeroId)

/-- `IP._from_ipv6`: quirks from the flow label and the traffic class -/
def ip6Q (flow tc : Nat) : QSet := (qIf (flow != 0) .flow).union (qIf (tc % 4 != 0) .ecn)

/-- `TCP.from_packet`: header quirks from the nine flag bits, sequence / acknowledgement numbers and urgent pointer -/
def tcpQ (flags seq ack urp : Nat) : QSet :=
  (qIf (bit flags 64 || bit flags 128 || bit flags 256) .ecn).union <|
    (qIf (seq == 0) .zeroSeq).union <|
    (qIf (bit flags 16 && ack == 0) .zeroAck).union <| (qIf (!bit flags 16 && ack != 0 && !bit flags 4) .nzAck).union <|
    (qIf (bit flags 32) .urg).union <| (qIf (!bit flags 32 && urp != 0) .nzUrg).union <|
    (qIf (bit flags 8) .push)

theorem ip4Q_apply (tos : Nat) (evil df : Bool) (ident : Nat) (q : Quirk) :
    ip4Q tos evil df ident q =
      match q with
      | .df => df
      | .nzId => df && ident != 0
      | .zeroId => !df && ident == 0
      | .nzMbz => evil
      | .ecn => tos % 4 != 0
      | _ => false := by
  simp only [ip4Q, QSet.union_apply, qIf_apply]
  cases q <;> simp only [reduceCtorEq, decide_false, decide_true, Bool.and_false, Bool.and_true, Bool.or_false, Bool.false_or]

theorem ip6Q_apply (flow tc : Nat) (q : Quirk) :
    ip6Q flow tc q = match q with | .flow => flow != 0 | .ecn => tc % 4 != 0 | _ => false := by
  simp only [ip6Q, QSet.union_apply, qIf_apply]
  cases q <;> simp only [reduceCtorEq, decide_false, decide_true, Bool.and_false, Bool.and_true, Bool.or_false, Bool.false_or]

theorem tcpQ_apply (flags seq ack urp : Nat) (q : Quirk) :
    tcpQ flags seq ack urp q =
      match q with
      | .ecn => bit flags 64 || bit flags 128 || bit flags 256
      | .zeroSeq => seq == 0
      | .nzAck => !bit flags 16 && ack != 0 && !bit flags 4
      | .zeroAck => bit flags 16 && ack == 0
      | .nzUrg => !bit flags 32 && urp != 0
      | .urg => bit flags 32
      | .push => bit flags 8
      | _ => false := by
  simp only [tcpQ, QSet.union_apply, qIf_apply]
  cases q <;> simp only [reduceCtorEq, decide_false, decide_true, Bool.and_false, Bool.and_true, Bool.or_false, Bool.false_or]

end P0f
