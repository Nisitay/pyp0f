/-
  Basic types of the pyp0f model: quirks (pyp0f/net/quirks.py), window types and the
  structured TCP signature (pyp0f/database/signatures/tcp.py) / packet signature
  (pyp0f/net/signatures/tcp.py).  Import-free so that the driver links as a plain executable.
-/
namespace P0f

/-- `pyp0f.net.quirks.Quirk`, in declaration (= bit) order. -/
inductive Quirk
  | ecn | df | nzId | zeroId | nzMbz | flow
  | zeroSeq | nzAck | zeroAck | nzUrg | urg | push
  | zeroTs1 | nzTs2 | eolNz | exws | bad
  deriving DecidableEq, Repr, Inhabited

/-- every quirk, in bit order (bit `i` of the Python `Flag` value is `Quirk.all[i]`). -/
def Quirk.all : List Quirk :=
  [.ecn, .df, .nzId, .zeroId, .nzMbz, .flow, .zeroSeq, .nzAck, .zeroAck, .nzUrg, .urg, .push,
   .zeroTs1, .nzTs2, .eolNz, .exws, .bad]

theorem Quirk.mem_all (q : Quirk) : q ∈ Quirk.all := by cases q <;> decide

/-- A set of quirks.  Pointwise representation: all set algebra stays propositional. -/
abbrev QSet := Quirk → Bool

namespace QSet
def empty : QSet := fun _ => false
def beq (a b : QSet) : Bool := Quirk.all.all fun q => a q == b q
def isEmpty (a : QSet) : Bool := Quirk.all.all fun q => !a q
def inter (a b : QSet) : QSet := fun q => a q && b q
def union (a b : QSet) : QSet := fun q => a q || b q
def xor (a b : QSet) : QSet := fun q => a q != b q
def compl (a : QSet) : QSet := fun q => !a q
def ofList (l : List Quirk) : QSet := fun q => l.contains q
def insert (a : QSet) (x : Quirk) : QSet := fun q => a q || q == x
def toList (a : QSet) : List Quirk := Quirk.all.filter a
/-- bit mask as used by the Python `Flag` (bit `i` = `Quirk.all[i]`) -/
def toMask (a : QSet) : Nat :=
  (Quirk.all.zipIdx.map fun (q, i) => if a q then 2 ^ i else 0).sum
def ofMask (m : Nat) : QSet := fun q =>
  match Quirk.all.idxOf? q with
  | some i => m.testBit i
  | none => false
end QSet

inductive WinType | normal | any | mod | mss | mtu deriving DecidableEq, Repr, Inhabited
inductive MatchType | exact | fuzzyTtl | fuzzyQuirks deriving DecidableEq, Repr, Inhabited

/-- `TCPSignature` (+ `WindowSignature`, `OptionsSignature`).  `none` = WILDCARD (-1). -/
structure Sig where
  ipVer : Option Nat
  olen : Nat
  ttl : Nat
  badTtl : Bool
  wtype : WinType
  wsize : Nat          -- meaningless for `.any` (Python stores -1)
  scale : Option Nat
  layout : List Nat
  mss : Option Nat
  eolPad : Nat
  payClass : Option Bool
  quirks : QSet

/-- the part of `TCPPacketSignature` that `tcp_signatures_match` reads, with the window
    multiplier (`WindowMultiplier(value, is_mtu)`, value `none` = WILDCARD) already computed. -/
structure PSig where
  ipVer : Nat
  olen : Int
  ttl : Nat
  win : Nat
  layout : List Nat
  mss : Nat
  wscale : Nat
  eolPad : Nat
  hasPayload : Bool
  quirks : QSet
  multVal : Int          -- `-1` = WILDCARD (no multiplier)
  multMtu : Bool

end P0f

namespace P0f
/-- `a in b` for `Flag` values: every member of `a` is in `b` -/
def QSet.subsetOf (a b : QSet) : Bool := (a.inter b).beq a
end P0f
