import P0f.Generated.Tables
import P0f.Expected
/-
  The tables regenerated from the pyp0f working tree (`Generated/Tables.lean`) equal the frozen copy `P0f.Expected`.
  Both sides are closed literals, so `rfl` is a complete decision: it fails to build exactly when a regenerated table
  differs.  A table the generator cannot read from the source is aliased to its `Expected` twin (harness/gen_tables.py
  reports it as unavailable); its line then holds whatever the source says.
-/
namespace P0f.TablesOk
open P0f

theorem quirkValues_ok : Generated.quirkValues = Expected.quirkValues := rfl
theorem quirkStrings_ok : Generated.quirkStrings = Expected.quirkStrings := rfl
theorem optionValues_ok : Generated.optionValues = Expected.optionValues := rfl
theorem optionStrings_ok : Generated.optionStrings = Expected.optionStrings := rfl
theorem optionSizes_ok : Generated.optionSizes = Expected.optionSizes := rfl
theorem tcpFlags_ok : Generated.tcpFlags = Expected.tcpFlags := rfl
theorem minTcp_ok : Generated.minTcp4 = Expected.minTcp4 ∧ Generated.minTcp6 = Expected.minTcp6 := ⟨rfl, rfl⟩
theorem wildcard_ok : Generated.wildcard = Expected.wildcard ∧ Generated.wildcardField = Expected.wildcardField := ⟨rfl, rfl⟩
theorem invalidQuirks_ok : Generated.invalidQuirks = Expected.invalidQuirks := rfl
theorem skipped_ok : Generated.skippedParams = Expected.skippedParams ∧ Generated.skippedLines = Expected.skippedLines := ⟨rfl, rfl⟩
theorem directions_ok : Generated.directions = Expected.directions := rfl
theorem options_ok : Generated.maxDist = Expected.maxDist ∧ Generated.minWait = Expected.minWait ∧
    Generated.maxWait = Expected.maxWait ∧ Generated.grace = Expected.grace ∧
    Generated.minScale = Expected.minScale ∧ Generated.maxScale = Expected.maxScale := ⟨rfl, rfl, rfl, rfl, rfl, rfl⟩

end P0f.TablesOk
