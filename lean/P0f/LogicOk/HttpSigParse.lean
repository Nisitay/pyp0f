import P0f.LogicOk.SigParse
import P0f.Model.Http
import P0f.Generated.Logic.ParseSigHeaders
import P0f.Generated.Logic.ParseHttpSig
/-
  `HTTPSignature.parse` and `_parse_headers` (C09, C06) against the source text.  The regular expression that splits the header
  list is bound to the model's `splitHeaders`.
-/
namespace P0f
open P0f.Py

theorem gen_parseSigHeadersLoop (field : List Char) : ∀ (l : List Bytes) (acc : List SigHdr),
    Gen.parseSigHeaders_loop0 field l acc = acc ++ (l.filter (fun h => !h.isEmpty)).map parseSigHeader := by
  first
  | (intro l acc; exact rfl)
  | (intro l
     induction l with
     | nil => intro acc; unfold Gen.parseSigHeaders_loop0; simp
     | cons h t ih =>
       intro acc
       unfold Gen.parseSigHeaders_loop0
       by_cases he : h.isEmpty = true
       · simp only [he, Bool.not_true, Bool.not_false, if_true, List.filter_cons, Bool.false_eq_true, if_false]
         exact ih acc
       · simp only [he, Bool.not_false, Bool.not_true, Bool.false_eq_true, if_false, List.filter_cons, if_true, List.map_cons, ih, qmark_eq,
           List.append_assoc, List.singleton_append, parseSigHeader, List.drop_zero, Nat.sub_zero, take_len_pred]
         congr 2
         cases (partition '=' h).2.2.isEmpty <;> simp)

theorem gen_parseSigHeaders (field : List Char) : Gen.parseSigHeaders field = parseSigHeaders field := by
  first
  | exact rfl
  | (unfold Gen.parseSigHeaders parseSigHeaders
     simp only [gen_parseSigHeadersLoop, List.nil_append])

theorem gen_parseHttpSig (raw : List Char) : Gen.parseHttpSig raw = parseHttpSig raw := by
  first
  | exact rfl
  | (unfold Gen.parseHttpSig parseHttpSig
     obtain ⟨ver, hdrs, absent, soft, h4⟩ := exists_of_length_eq_four (splitParts_len ':' 4 raw)
     have e1 : ("0".toList) = ['0'] := by decide +kernel
     have e2 : ("1".toList) = ['1'] := by decide +kernel
     simp only [h4, List.getD_cons_zero, List.getD_cons_succ, star_eq, e1, e2, elim_none_some, gen_parseSigHeaders]
     cases ver == ['*'] <;> cases ver == ['0'] <;> cases ver == ['1'] <;> cases absent.isEmpty <;> cases soft.isEmpty <;> rfl)

end P0f
