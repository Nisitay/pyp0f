import P0f.Lemmas.Q
import P0f.LogicOk.Attr
/-
  Lemmas the bridging theorems share: casts the translator inserts (Python ints are `Int`, the model mostly uses
  `Nat`), Python's floor division / modulo against the model's, WILDCARD encodings; the simp set `pynorm` for the
  translator's control skeleton.

  Two idioms of the bridging proofs (`gen_*`), whose left sides are printed anew from the working tree on every check:
  * `first | exact rfl | <proof for the pinned source> | <others>`.  `exact rfl` is for the alias state (DESIGN 11.7): a function
    that has left the translator's fragment is printed as `def Gen.f := <the model's f>`, its safety companion as `:= true`.
    Where the alias is the model function only up to a rewriting step, a short proof stands in that place instead.  Each
    alternative after the one for the pinned source says which spelling of the source it is for.
  * `simp only [...] <;> grind`: `grind` runs only if `simp only` leaves a goal.  On the pinned source it leaves none (hence the
    linter's "this tactic is never executed"); on a rewritten source `grind` closes what the rewriting did not.
-/
namespace P0f

/-- `==` carried along an equivalence of equalities: how a test survives the translator's encodings (a cast, WILDCARD as `-1`) -/
theorem beq_congr {α β : Type} [BEq α] [LawfulBEq α] [BEq β] [LawfulBEq β] {a b : α} {c d : β} (h : a = b ↔ c = d) :
    (a == b) = (c == d) := by
  rw [Bool.eq_iff_iff, beq_iff_eq, beq_iff_eq, h]

@[simp] theorem natCast_beq_cast (n k : Nat) : (((n : Nat) : Int) == ((k : Nat) : Int)) = (n == k) := beq_congr Int.natCast_inj
@[simp] theorem natCast_bne_cast (n k : Nat) : (((n : Nat) : Int) != ((k : Nat) : Int)) = (n != k) :=
  congrArg not (natCast_beq_cast n k)
@[simp] theorem natCast_bne_zero (n : Nat) : (((n : Nat) : Int) != 0) = (n != 0) := natCast_bne_cast n 0
@[simp] theorem natCast_beq_ofNat (n k : Nat) : (((n : Nat) : Int) == (no_index (OfNat.ofNat k) : Int)) = (n == k) :=
  natCast_beq_cast n k
@[simp] theorem natCast_bne_ofNat (n k : Nat) : (((n : Nat) : Int) != (no_index (OfNat.ofNat k) : Int)) = (n != k) :=
  natCast_bne_cast n k

theorem map_toNat_cast (l : List Nat) : (l.map fun (k : Nat) => (k : Int)).map Int.toNat = l := by
  simp [Function.comp_def]

/-! the WILDCARD encoding is injective (`-1` is `optInt none`, a cast is `optInt (some _)`) -/
theorem optInt_inj {a b : Option Nat} : optInt a = optInt b ↔ a = b := by
  cases a <;> cases b <;> simp [optInt] <;> omega
theorem optInt_beq (a b : Option Nat) : (optInt a == optInt b) = (a == b) := beq_congr optInt_inj
@[simp] theorem optInt_beq_wild (o : Option Nat) : (optInt o == -1) = o.isNone := by
  rw [← Option.beq_none]; exact optInt_beq o none
@[simp] theorem optInt_bne_wild (o : Option Nat) : (optInt o != -1) = o.isSome := by
  rw [bne, optInt_beq_wild]; cases o <;> rfl
@[simp] theorem optInt_beq_cast (o : Option Nat) (n : Nat) : (optInt o == ((n : Nat) : Int)) = (o == some n) :=
  optInt_beq o (some n)
@[simp] theorem optInt_bne_cast (o : Option Nat) (n : Nat) : (optInt o != ((n : Nat) : Int)) = (o != some n) :=
  congrArg not (optInt_beq_cast o n)
@[simp] theorem optBoolInt_bne_wild (o : Option Bool) : (optBoolInt o != -1) = o.isSome := by
  rcases o with _ | _ | _ <;> rfl
@[simp] theorem optBoolInt_bne_bool (o : Option Bool) (b : Bool) :
    (optBoolInt o != (if b then (1 : Int) else 0)) = (o != some b) := by
  rcases o with _ | _ | _ <;> cases b <;> rfl

theorem intToOpt_eq_some (v : Int) (n : Nat) : intToOpt v = some n ↔ v = n := by
  unfold intToOpt; split <;> simp <;> omega

theorem intToOpt_optInt (o : Option Nat) : intToOpt (optInt o) = o := by
  cases o with
  | none => rfl
  | some n => exact (intToOpt_eq_some _ n).mpr rfl

/-! String literals.  The elaborator's `whnf` on `String.toList` of a literal is very slow, so no `simp` or `split` is let loose on a
    goal that still holds one: each literal is first rewritten to its character list by a closed equation that the kernel
    evaluates.  The three that several files need are named here; the others are local `have`s where they are used. -/
theorem star_eq : ("*".toList) = ['*'] := by decide +kernel
theorem qmark_eq : ("?".toList) = ['?'] := by decide +kernel
theorem letterS_eq : ("s".toList) = ['s'] := by decide +kernel

attribute [pynorm] Bool.not_not Bool.not_true Bool.not_false Bool.or_true Bool.true_or Bool.or_false Bool.false_or Bool.and_true
  Bool.true_and Bool.false_and Bool.and_false Bool.false_eq_true Bool.or_self if_true if_false ite_true ite_false Sum.elim_inr Sum.elim_inl
  Option.elim_some Option.elim_none Option.map_some Option.map_none Option.bind_some Option.bind_none bne_self_eq_false
  List.isEmpty_cons List.head?_cons not_false_eq_true not_true_eq_false

theorem Sum.elim_ite {α β γ : Type} (f : α → γ) (g : β → γ) (c : Prop) [Decidable c] (x y : Sum α β) :
    Sum.elim f g (if c then x else y) = if c then Sum.elim f g x else Sum.elim f g y := apply_ite _ _ _ _
theorem Sum.elim_optElim {α β γ δ : Type} (f : α → γ) (g : β → γ) (o : Option δ) (a : Sum α β) (k : δ → Sum α β) :
    Sum.elim f g (o.elim a k) = o.elim (Sum.elim f g a) (fun x => Sum.elim f g (k x)) := by cases o <;> rfl
theorem Option.elim_self {α β : Type} (o : Option α) (b : β) : o.elim b (fun _ => b) = b := by cases o <;> rfl
theorem elim_none_some {α : Type} (o : Option α) : Option.elim o none (fun r => some r) = o := by
  cases o <;> rfl
/-- `Option.elim` as a `match`, so that `grind` splits on the optional values the printed code binds -/
theorem elim_eq_match {α β : Type} (o : Option α) (e : β) (f : α → β) :
    o.elim e f = (match o with | none => e | some v => f v) := by cases o <;> rfl

/-- `line[0] == c` on a non-empty stripped line, as the printed code spells it (`line[0:1]` against a one-character string) -/
theorem take1_cons (c d : Char) (t : List Char) : ((List.take 1 (List.drop 0 (c :: t))) == [d]) = (c == d) := by
  simp

/-- Python's `a % d != 0` (floor modulo) against the model's Euclidean one: zero-ness agrees for every divisor -/
theorem fmod_bne_zero (a d : Int) : (Int.fmod a d != 0) = !(a % d == 0) :=
  congrArg not (beq_congr ⟨fun h => Int.emod_eq_zero_of_dvd (Int.dvd_of_fmod_eq_zero h),
    fun h => Int.fmod_eq_zero_of_dvd (Int.dvd_of_emod_eq_zero h)⟩)

@[simp] theorem fmod_natCast (a b : Nat) : Int.fmod ((a : Nat) : Int) ((b : Nat) : Int) = ((a % b : Nat) : Int) := by
  rw [Int.fmod_eq_emod_of_nonneg _ (Int.natCast_nonneg b)]; rfl

@[simp] theorem fdiv_natCast (a b : Nat) : Int.fdiv ((a : Nat) : Int) ((b : Nat) : Int) = ((a / b : Nat) : Int) := by
  rw [Int.fdiv_eq_ediv_of_nonneg _ (Int.natCast_nonneg b)]; rfl


end P0f
