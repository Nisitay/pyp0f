import P0f.LogicOk.Prelude
import P0f.Model.Uptime
import P0f.Generated.Logic.RoundFrequency
namespace P0f
/-- the code only calls `round_frequency` with a reading inside `[min scale, max scale]`, hence `0 ≤` (C13) -/
theorem gen_roundFrequency (q : Q) (h : 0 ≤ Q.trunc q) :
    Gen.roundFrequency q = (roundFrequency (Q.trunc q).toNat : Nat) := by
  first
  | exact rfl
  | (unfold Gen.roundFrequency roundFrequency
     generalize Q.trunc q = f at *
     obtain ⟨n, rfl⟩ := Int.eq_ofNat_of_zero_le h
     simp only [Int.toNat_natCast]
     grind)
end P0f
