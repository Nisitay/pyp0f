import P0f.LogicOk.Prelude
import P0f.Model.Find
import P0f.Generated.Logic.GuessDistance
import P0f.Generated.Logic.TcpDistance
namespace P0f

theorem gen_guessDistance (ttl : Nat) : Gen.guessDistance ttl = guessDistance ttl := by
  first
  | exact rfl
  | (unfold Gen.guessDistance guessDistance
     -- `next(...)` over the literal list of initial TTLs is printed as a `firstHit`, evaluated entry by entry; an explicit `for`
     -- loop over it is printed unrolled (refactors/rf07), and there is nothing to unfold
     try unfold firstHit
     grind [List.find?])

/-- `TCPResult.__post_init__` (C02) -/
theorem gen_distance (m : Option TcpMatch) (pttl : Nat) : Gen.distance m pttl = distance m pttl := by
  first
  | exact rfl
  | (unfold Gen.distance distance
     rw [gen_guessDistance]
     rcases m with _ | ⟨mt, r⟩
     · simp
     · cases mt <;> simp)

end P0f
