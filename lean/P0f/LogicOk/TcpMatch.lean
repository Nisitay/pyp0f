import P0f.LogicOk.Prelude
import P0f.Model.Match
import P0f.Props.C01
import P0f.Generated.Logic.TcpSignaturesMatch
namespace P0f

theorem gen_tcpSignaturesMatch (s : Sig) (p : PSig) (d : Int) : Gen.tcpSignaturesMatch s p d = tcpMatch s p d := by
  first
  | exact rfl
  | (unfold Gen.tcpSignaturesMatch tcpMatch maskedQ quirkStep windowBad v4Only v6Only
     simp only [qset_ofList_union, List.cons_append, List.nil_append, optInt_bne_wild, optInt_beq_wild, optInt_bne_cast,
       optBoolInt_bne_wild, optBoolInt_bne_bool, natCast_beq_ofNat, natCast_bne_ofNat, fmod_natCast, natCast_bne_zero,
       natCast_beq_cast, natCast_bne_cast, qxor_inter_left, qxor_inter_right, qinter_xor_left, qinter_xor_right]
     first
     | grind (splits := 60)
     | grind (splits := 60) [qbeq_comm, qxor_comm])   -- operands of `!=` / `^` on quirk sets swapped (refactors/rf25)

/-- **C01 against the source text**: `tcp_signatures_match` as printed from the working tree follows the
    declarative p0f matching rules, for every signature, packet signature and `max_dist`. -/
theorem source_tcpMatch_eq_spec (s : Sig) (p : PSig) (d : Int) : Gen.tcpSignaturesMatch s p d = specMatch s p d := by
  rw [gen_tcpSignaturesMatch]; exact tcpMatch_eq_spec s p d

end P0f
