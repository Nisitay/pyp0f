/-
  Three idioms of the translator, stated once for variables.

  A literal `dict`: `D[x]` with its `KeyError` is printed as a membership test over the keys (a left-nested `||`) followed by a
  chain of `if x == k then v` that ends in a default never reached; the model writes the same lookup as one chain of
  `if x == k then some v`.  The table is a variable here, so no key is ever compared.

  A `for` loop that threads its variables and may raise: printed as a structural recursion on the list; the model folds its step.

  A comprehension with a filter, `[f(a) for a in l if q(a)]`: printed as a flattened list of one-or-no-element pieces; the model
  filters, then maps.
-/
namespace P0f
variable {α β : Type} [BEq α]

def dictHas (x : α) : List (α × β) → Bool → Bool
  | [], b => b
  | (k, _) :: t, b => dictHas x t (b || x == k)

def dictVal (x : α) (d : β) : List (α × β) → β
  | [] => d
  | (k, v) :: t => if x == k then v else dictVal x d t

def dictGet? (x : α) : List (α × β) → Option β
  | [] => none
  | (k, v) :: t => if x == k then some v else dictGet? x t

theorem dictHas_true (x : α) (t : List (α × β)) : dictHas x t true = true := by
  induction t with
  | nil => rfl
  | cons kv t ih => exact ih

theorem dict_printed (x : α) (d : β) (t : List (α × β)) :
    (if (!dictHas x t false) = true then none else some (dictVal x d t)) = dictGet? x t := by
  induction t with
  | nil => rfl
  | cons kv t ih =>
    obtain ⟨k, v⟩ := kv
    simp only [dictHas, dictVal, dictGet?, Bool.false_or]
    by_cases h : (x == k) = true
    · simp only [h, dictHas_true, Bool.not_true, Bool.false_eq_true, if_false, if_true]
    · simpa only [h, Bool.false_eq_true, if_false] using ih

theorem dictGet?_map {γ : Type} [PartialEquivBEq α] (x : α) (k : γ → α) (v : γ → β) (l : List γ) :
    dictGet? x (l.map fun a => (k a, v a)) = (l.find? fun a => k a == x).map v := by
  induction l with
  | nil => rfl
  | cons a l ih =>
    simp only [List.map_cons, dictGet?, List.find?_cons, ih]
    rw [BEq.comm]
    cases k a == x <;> rfl

/-- `r` reads the model's loop state as the printed loop variables -/
theorem loop_eq_foldlM {α σ τ : Type} (loop : List α → τ → Option τ) (step : σ → α → Option σ) (r : σ → τ)
    (hnil : ∀ a, loop [] (r a) = some (r a))
    (hcons : ∀ x xs a, loop (x :: xs) (r a) = (step a x).elim none fun a' => loop xs (r a')) :
    ∀ l a, loop l (r a) = (l.foldlM step a).map r := by
  intro l
  induction l with
  | nil => exact hnil
  | cons x xs ih =>
    intro a
    rw [hcons, List.foldlM_cons]
    cases step a x with
    | none => rfl
    | some a' => exact ih a'

theorem flatten_cond {α β : Type} (q : α → Bool) (f : α → β) (l : List α) :
    (l.map (fun a => if q a then [f a] else [])).flatten = (l.filter q).map f := by
  induction l with
  | nil => rfl
  | cons a as ih =>
    simp only [List.map_cons, List.flatten_cons, ih, List.filter_cons]
    cases q a <;> simp

end P0f
