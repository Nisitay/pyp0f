import P0f.LogicOk.Prelude
import P0f.Model.Mtu
import P0f.Generated.Logic.MtuFromMss
import P0f.Generated.Logic.FindMtuMatch
import P0f.Generated.Logic.FingerprintMtu
import P0f.LogicOk.Gates
import P0f.Props.C08
namespace P0f
/-- `MTUPacketSignature.from_mss` as printed from the source: PacketError without an MSS, else MSS + 40 / 60 (C08) -/
theorem gen_mtuFromMss (mss v : Nat) :
    Gen.mtuFromMss mss v = if mss = 0 then none else some ((mss + mtuHdr v : Nat) : Int) := by
  first
  | exact rfl
  | (unfold Gen.mtuFromMss mtuHdr
     by_cases h4 : v = 4 <;> simp [h4])

/-- `find_mtu_match` as printed from the source (with `mtu_signatures_match` inlined): the first record whose MTU is exactly
    the packet's.  A record is (its MTU, its position in the list). -/
theorem gen_findMtuMatch (recs : List (Nat × Nat)) (mtu : Nat) :
    Gen.findMtuMatch recs mtu = recs.find? (fun r => r.1 == mtu) := by
  first
  | exact rfl
  | (unfold Gen.findMtuMatch firstHit
     cases recs.find? (fun r => r.1 == mtu) <;> rfl)

theorem findMtu_zipIdx (db : List Nat) (mtu : Nat) : (db.zipIdx.find? (fun r => r.1 == mtu)).map (·.2) = findMtu db mtu :=
  (List.findIdx?_eq_fst_find?_zipIdx (xs := db) (p := (· == mtu))).symm

/-- the printed search on the enumerated record list = the model's `findMtu` (index of the earliest record with that MTU) -/
theorem source_findMtu (db : List Nat) (mtu : Nat) : (Gen.findMtuMatch db.zipIdx mtu).map (·.2) = findMtu db mtu := by
  rw [gen_findMtuMatch]; exact findMtu_zipIdx db mtu

/-- `fingerprint_mtu` as printed from the source (gate, `from_packet` = the printed `from_mss` on the packet's MSS and IP version,
    search, result) = the model's: PacketError exactly for a fragment / other flags / no MSS, else MSS + 40 / 60 and the
    earliest record with exactly that MTU (C08) -/
theorem gen_fingerprintMtu (db : List Nat) (p : PktL) :
    (Gen.fingerprintMtu db.zipIdx p).map (fun r => (r.1, r.2.map (·.2))) = fingerprintMtu db p := by
  unfold fingerprintMtu Gen.fingerprintMtu
  by_cases hv : validMtu p.ip.isFragment p.tcp.type p.tcp.opts.mss = true
  · have hm : ¬ p.tcp.opts.mss = 0 := ((validMtu_eq_true _ _ _).mp hv).2.1
    simp only [gen_validMtu, gen_mtuFromMss, gen_findMtuMatch, hv, hm, pynorm, Int.toNat_natCast, findMtu_zipIdx]
  · simp [gen_validMtu, hv]

/-- **C08 (fingerprint side) against the source text**: the printed `fingerprint_mtu` raises PacketError exactly for a fragment, a
    packet without MSS or one that is not a SYN / SYN+ACK, and otherwise reports MSS + 40 (IPv4) / + 60 (IPv6) with the EARLIEST
    record of exactly that MTU (its position in the list), or no record when there is none -/
theorem source_fpMtu_spec (db : List Nat) (p : PktL) :
    ((Gen.fingerprintMtu db.zipIdx p).map (fun r => (r.1, r.2.map (·.2))) = none ↔
        (p.ip.isFragment = true ∨ p.tcp.opts.mss = 0 ∨ ¬ (p.tcp.type = F_SYN ∨ p.tcp.type = F_SYN ||| F_ACK))) ∧
    (∀ mtu m, (Gen.fingerprintMtu db.zipIdx p).map (fun r => (r.1, r.2.map (·.2))) = some (mtu, m) →
        mtu = p.tcp.opts.mss + (if p.ip.version = 4 then 40 else 60) ∧
        (∀ i, m = some i → db[i]? = some mtu ∧ ∀ j < i, db[j]? ≠ some mtu) ∧ (m = none → mtu ∉ db)) := by
  rw [gen_fingerprintMtu]
  refine ⟨(fpMtu_spec db p).1, fun mtu m hm => ?_⟩
  obtain ⟨e1, rfl⟩ := (fpMtu_spec db p).2 mtu m hm
  exact ⟨e1, findMtu_first db mtu⟩

end P0f
