import P0f.LogicOk.Prelude
import P0f.Lemmas.Match
import P0f.Lemmas.Bits
import P0f.Model.ImpFields
import P0f.Generated.Logic.ImpersonateIp
import P0f.Generated.Logic.ImpersonateTcpHeader
import P0f.Generated.Logic.ImpersonateWindow
/-
  The impersonator's header logic (C05, C14) against the source text: `_impersonate_ip`, the sequence / acknowledgement /
  flag / urgent-pointer part of `_impersonate_tcp`, `_impersonate_window`.  The value each `random` call returns is a field
  of the model's `Choices` (bound by the position of the call in the source).  The statements bound the flag values by
  their field widths (3 IPv4 flag bits, 9 TCP flag bits), as Scapy's fields are; only the fallback of `gen_impIp` uses a bound.
-/
namespace P0f

/-- clearing / setting one flag bit, the way the code spells it, against the model's `clearBit` / `setBit`: instances of
    `clearBit_two_pow` / `setBit_two_pow`, which hold for every `f` and which the proofs below use directly (these two are
    not used) -/
theorem clear_eq (f m : Nat) (hf : f < 512) (hm : m = 1 ∨ m = 2 ∨ m = 4 ∨ m = 8 ∨ m = 16 ∨ m = 32 ∨ m = 64 ∨ m = 128 ∨ m = 256) :
    f ^^^ (f &&& m) = clearBit f m := by
  rw [flagMask_pow hm, clearBit_two_pow]

theorem set_eq (f m : Nat) (hf : f < 512) (hm : m = 1 ∨ m = 2 ∨ m = 4 ∨ m = 8 ∨ m = 16 ∨ m = 32 ∨ m = 64 ∨ m = 128 ∨ m = 256) :
    f ||| m = setBit f m := by
  rw [flagMask_pow hm, setBit_two_pow]

/-- `none` = ValueError -/
theorem gen_impWindow (s : Sig) (b : Base) (opts : List SOpt) (mtu : Nat) (c : Choices) :
    Gen.impWindow s b opts mtu c = (impWindow s b opts mtu c).toOption := by
  first
  | exact rfl
  | (unfold Gen.impWindow impWindow
     cases s.wtype <;> simp [Except.toOption] <;> (cases lastMss opts <;> simp))

/-- the flag computation of `_impersonate_tcp`, as the code spells it, over the five quirk bits that matter -/
def codeTcpFlags (nzAck zeroAck nzUrg urg push : Bool) (f : Nat) : Nat :=
  let f1 := if nzAck then f ^^^ (f &&& 16) else if zeroAck then f ||| 16 else f
  let f2 := if nzUrg then f1 ^^^ (f1 &&& 32) else if urg then f1 ||| 32 else f1
  let f3 := f2 ^^^ (f2 &&& (64 ||| 128 ||| 256))
  if push then f3 ||| 8 else f3 ^^^ (f3 &&& 8)

theorem codeTcpFlags_eq : ∀ (a z u g p : Bool) (f : Nat), f < 512 → codeTcpFlags a z u g p f = impFlagsB a z u g p f := by
  intro a z u g p f _
  unfold codeTcpFlags impFlagsB F_ACK F_URG F_ECE F_CWR F_NS F_PSH
  simp only [xor_and_or, clearBit_two_pow _ 3, clearBit_two_pow _ 4, clearBit_two_pow _ 5, clearBit_two_pow _ 6,
    clearBit_two_pow _ 7, clearBit_two_pow _ 8, setBit_two_pow _ 3, setBit_two_pow _ 4, setBit_two_pow _ 5]

/-- the sequence / acknowledgement / flags / urgent-pointer part of `_impersonate_tcp` as printed from the source =
    the model's (C14: identity and SYN nature kept, C05: header quirks) -/
theorem gen_impTcpHeader (s : Sig) (b : Base) (c : Choices) (hf : b.flags < 512) :
    Gen.impTcpHeader s b c = (impSeq s b c, impAck s b c, impFlags s b.flags, impUrp s b c) := by
  first
  | exact rfl
  | (-- the flag component in the code's spelling; the joined (flags, value) pairs come apart componentwise
     unfold Gen.impTcpHeader impSeq impAck impUrp impFlags
     rw [← codeTcpFlags_eq _ _ _ _ _ _ hf]
     simp only [codeTcpFlags, subsetOf_single, apply_ite Prod.fst, apply_ite Prod.snd, ite_self])

/-- `_impersonate_ip` as printed from the source = the model's: TTL / hop limit with the extra hops, ECN code point,
    IPv4 identification and flag bits, number of IP options, IPv6 flow label -/
theorem gen_impIp (s : Sig) (b : Base) (hops : Int) (c : Choices) (hf : b.ipFlags < 8) :
    Gen.impIp s b hops c = impIpFields s b hops c := by
  first
  | exact rfl
  | (unfold Gen.impIp impIpFields impIpId impIpFlags impIpFlagsB
     cases b.ipVer == 6 <;> simp only [subsetOf_single, Bool.false_eq_true, if_false, if_true]
     first
     | (simp only [clearBit_two_pow _ 1, clearBit_two_pow _ 2, setBit_two_pow _ 1, setBit_two_pow _ 2,
          apply_ite Prod.fst, apply_ite Prod.snd, ite_self, Nat.reducePow]
        done)
     | (-- IPv4, spelled differently (one mask expression for both flag bits, the identification as one `elif` chain:
        -- refactors/rf38, rf86): the identification is propositional; the flag word is a function of the 3-bit field and
        -- the two quirk bits, decided by an exhaustive kernel check
        simp only [Prod.mk.injEq, true_and, and_true]
        refine ⟨by grind, ?_⟩
        generalize s.quirks .df = df
        generalize s.quirks .nzMbz = mbz
        generalize b.ipFlags = f at hf ⊢
        revert df mbz f
        unfold setBit clearBit bit
        decide +kernel))

end P0f
