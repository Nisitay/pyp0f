import P0f.Props.C03
import P0f.LogicOk.Prelude
import P0f.LogicOk.Attr
import P0f.Lemmas.Bits
import P0f.Model.WireFields
import P0f.Generated.Logic.FromIpv4
import P0f.Generated.Logic.FromIpv6
import P0f.Generated.Logic.TcpFromPacket
import P0f.Generated.Logic.TcpPostInit
namespace P0f

/-! the field-level restatement agrees with the byte-level model the C03 theorems are about -/

/-- below an IHL of 5 the two differ: the model's `olen : Nat` stops at 0 where the code's `int` goes negative -/
theorem ipv4Layer_fields (b : List Nat) (h : 5 ≤ b.getD 0 0 % 16) :
    ipv4Fields (ip4FieldsOf b) =
      ((ipv4Layer b).version, (ipv4Layer b).ttl, (ipv4Layer b).tos, ((ipv4Layer b).olen : Int), ((ipv4Layer b).hdrLen : Int),
        (ipv4Layer b).isFragment, (ipv4Layer b).quirks) := by
  unfold ipv4Fields ip4FieldsOf ipv4Layer
  simp only [Prod.mk.injEq, true_and]
  exact ⟨by omega, trivial⟩

theorem ipv6Layer_fields (b : List Nat) :
    ipv6Fields (ip6FieldsOf b) =
      ((ipv6Layer b).version, (ipv6Layer b).ttl, (ipv6Layer b).tos, ((ipv6Layer b).olen : Int), ((ipv6Layer b).hdrLen : Int),
        (ipv6Layer b).isFragment, (ipv6Layer b).quirks) := by
  rfl

theorem and3_eq (x : Nat) : x &&& 3 = x % 4 := Nat.and_two_pow_sub_one_eq_mod x 2
theorem shr2_eq (x : Nat) : x >>> 2 = x / 4 := Nat.shiftRight_eq_div_pow x 2

theorem bool_ite (c x y : Bool) : (if c = true then x else y) = (c && x || !c && y) := by
  cases c <;> simp

-- fills `qset_pt`
attribute [qset_pt] QSet.ite_apply QSet.union_apply QSet.empty_apply qIf_apply qofList_single Bool.beq_eq_decide_eq bool_ite bne
  Bool.and_or_distrib_left Bool.not_not Bool.false_or Bool.and_false Bool.or_false Bool.and_assoc Bool.or_assoc

theorem gen_fromIpv4 (ip : Ip4F) : Gen.fromIpv4 ip = ipv4Fields ip := by
  first
  | exact rfl
  | (unfold Gen.fromIpv4 ipv4Fields
     simp only [and3_eq, shr2_eq, qunion_ite, ite_qunion, qunion_assoc, Prod.mk.injEq, true_and]
     -- both sides at one quirk are Boolean combinations of the guards and of the tests `q = X`: one normal form; what a
     -- re-spelling of the source leaves over is propositional
     funext q
     simp only [qset_pt] <;> grind)

theorem gen_fromIpv6 (ip : Ip6F) : Gen.fromIpv6 ip = ipv6Fields ip := by
  first
  | exact rfl
  | (unfold Gen.fromIpv6 ipv6Fields
     simp only [and3_eq, shr2_eq, qunion_ite, ite_qunion, qunion_assoc, Prod.mk.injEq, true_and]
     funext q
     simp only [qset_pt] <;> grind)

/-- the nine flag bits only: a flag test or mask does not see anything above bit 8 -/
theorem bit_add512 (k r m : Nat) (hm : m = 1 ∨ m = 2 ∨ m = 4 ∨ m = 8 ∨ m = 16 ∨ m = 32 ∨ m = 64 ∨ m = 128 ∨ m = 256) :
    bit (512 * k + r) m = bit r m := by
  rw [Nat.mul_comm]
  exact bit_mul_add k 512 r m (by rcases hm with rfl | rfl | rfl | rfl | rfl | rfl | rfl | rfl | rfl <;> decide)

theorem and_add512 (k r M : Nat) (hM : M < 512) : (512 * k + r) &&& M = r &&& M := by
  -- `M` only meets the low nine bits of the other operand
  have low (x : Nat) : x &&& M = x % 512 &&& M := by
    have h := Nat.and_mod_two_pow (a := x) (b := M) (n := 9)
    rwa [Nat.mod_eq_of_lt (Nat.lt_of_le_of_lt Nat.and_le_right hM), Nat.mod_eq_of_lt hM] at h
  rw [low, Nat.mul_add_mod, ← low]

theorem gen_tcpFromPacket (tcp : TcpF) : Gen.tcpFromPacket tcp = tcpFields tcp := by
  first
  | exact rfl
  | (unfold Gen.tcpFromPacket tcpFields
     simp only [tcpType, F_SYN, F_ACK, F_FIN, F_RST, qunion_ite, ite_qunion, Prod.mk.injEq, true_and]
     funext q
     simp only [qset_pt] <;> grind)
  | (-- another spelling of the flag tests (a mask for the ECN bits, merged conditions: refactors/rf14): the quirk set is a
     -- function of the nine flag bits and of three zero tests, decided exhaustively
     unfold Gen.tcpFromPacket tcpFields
     simp only [Prod.mk.injEq]
     refine ⟨trivial, ?_, ?_, ?_⟩
     · simp [tcpType, F_SYN, F_ACK, F_FIN, F_RST]
     · simp
     · obtain ⟨k, r, hr, hf⟩ : ∃ k r, r < 512 ∧ tcp.flags = 512 * k + r := ⟨tcp.flags / 512, tcp.flags % 512, by omega, by omega⟩
       simp only [hf, bne]
       simp (disch := decide) only [bit_add512, and_add512]
       generalize (tcp.seq == 0) = zs
       generalize (tcp.ack == 0) = za
       generalize (tcp.urgptr == 0) = zu
       funext q
       clear hf
       revert zs za zu r
       unfold bit
       cases q <;> decide +kernel)

theorem gen_tcpPostInit (t : Nat) (q oq : QSet) : Gen.tcpPostInit t q oq = (tcpType t, q.union oq) := by
  first
  | exact rfl
  | (unfold Gen.tcpPostInit tcpType F_SYN F_ACK F_FIN F_RST
     rfl)

/-- the byte-level TCP layer of the model (C03) restated through the field-level definitions -/
theorem tcpLayer_fields (t : List Nat) :
    (tcpLayer t).type = tcpType (tcpFields (tcpFieldsOf t)).1 ∧
    ((tcpLayer t).hdrLen : Int) = (tcpFields (tcpFieldsOf t)).2.2.1 ∧
    (tcpLayer t).quirks = (tcpFields (tcpFieldsOf t)).2.2.2.union (tcpLayer t).opts.quirks := by
  unfold tcpLayer tcpFields tcpFieldsOf
  exact ⟨rfl, rfl, rfl⟩


/-- **C03 (IPv4 quirks) against the source text**: the quirk set the printed `IP._from_ipv4` derives from the header fields Scapy
    dissects (`ip4FieldsOf b`: the RFC 791 fields of the header bytes `b`) holds each quirk exactly under the documented header-bit
    condition; likewise the fragment flag -/
theorem source_ipv4_quirks (b : List Nat) (h : 5 ≤ b.getD 0 0 % 16) (q : Quirk) :
    (Gen.fromIpv4 (ip4FieldsOf b)).2.2.2.2.2.2 q = specV4Quirk b q := by
  rw [gen_fromIpv4, ipv4Layer_fields b h]
  exact ipv4_quirks b q

theorem source_ipv4_fragment (b : List Nat) (h : 5 ≤ b.getD 0 0 % 16) :
    (Gen.fromIpv4 (ip4FieldsOf b)).2.2.2.2.2.1 = (v4MF b || v4FragOff b != 0) := by
  rw [gen_fromIpv4, ipv4Layer_fields b h]
  exact ipv4_fragment b

/-- **C03 (IPv6 quirks) against the source text** -/
theorem source_ipv6_quirks (b : List Nat) (q : Quirk) :
    (Gen.fromIpv6 (ip6FieldsOf b)).2.2.2.2.2.2 q = specV6Quirk b q := by
  rw [gen_fromIpv6, ipv6Layer_fields b]
  exact ipv6_quirks b q

end P0f
