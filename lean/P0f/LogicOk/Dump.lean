import P0f.LogicOk.Prelude
import P0f.LogicOk.Dict
import P0f.Lemmas.QSet
import P0f.Model.TcpOptions
import P0f.Generated.Logic.DumpLayout
import P0f.Generated.Logic.DumpQuirks
/-
  The writers of C18 against the source text: `TCPOptions.dump` (option layout in p0f notation) and `dump_quirks`
  (`QUIRK_STRINGS` in declaration order, read from the live module).
-/
namespace P0f

theorem gen_dumpLayout (layout : List Nat) (eolPad : Nat) : Gen.dumpLayout layout eolPad = dumpLayout layout eolPad := by
  first
  | exact rfl
  | (unfold Gen.dumpLayout dumpLayout joinComma
     simp only [if_true]
     congr 1
     apply List.map_congr_left
     intro k _
     unfold dumpOption optName
     by_cases h0 : k = 0
     · subst h0; rfl
     · -- `OPTION_STRINGS.get(option, …)` for a kind that is not EOL: the EOL key is dead, the rest is the model's chain
       simp only [bne_iff_ne, ne_eq, beq_iff_eq, h0, not_false_eq_true, if_true, if_false, qmark_eq, List.singleton_append])

theorem gen_dumpQuirks (q : QSet) : Gen.dumpQuirks q = dumpQuirks q := by
  first
  | exact rfl
  | (unfold Gen.dumpQuirks dumpQuirks joinComma QSet.toList
     simp only [subsetOf_single]
     rw [← flatten_cond q Quirk.str Quirk.all]
     rfl)

end P0f
