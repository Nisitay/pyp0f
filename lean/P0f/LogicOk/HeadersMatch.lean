import P0f.LogicOk.Prelude
import P0f.Props.C06
import P0f.Generated.Logic.HeadersMatch
/-
  `headers_match` (C06) against the source text: the `for` loop over the signature headers with its inner `while`
  (index walk through the packet headers), `continue` and early returns.  Two stages as for the option walk:
  `P0f.Ref.headersMatch` is a frozen copy of what the translator printed from the pinned source, `ref_headersMatch`
  proves it equal to the model's `headersMatch` (incl. that the fuel `len(packet_headers) + 1` suffices), and
  `gen_headersMatch` compares the definition printed from the working tree with the frozen copy.
-/
namespace P0f.Ref
open P0f P0f.Py
set_option linter.unusedVariables false

def headersMatch_while0 (sh : List SigHdr) (ph : List Hdr) (header : SigHdr) (original_index : Nat) : Nat → Nat → Option (Nat)
  | 0, i => none
  | fuel + 1, i =>
    if ((decide (i < (List.length ph))) && ((lower header.name) != (lower (List.getD ph i default).name))) then
      let i : Nat := (i + 1)
      (headersMatch_while0 sh ph header original_index fuel i)
    else
      (some (i))
def headersMatch_loop0 (sh : List SigHdr) (ph : List Hdr) : List SigHdr → Nat → Bool
  | [], i =>
    true
  | header :: xs, i =>
    let original_index : Nat := i
    let w2_3 : Nat := Option.getD (headersMatch_while0 sh ph header original_index (ph.length + 1) i) (i)
    let i := w2_3
    if (i == (List.length ph)) then
      if (!header.optional) then
        false
      else
        if (List.any ph (fun packet_header => ((lower header.name) == (lower packet_header.name)))) then
          false
        else
          let i : Nat := original_index
          (headersMatch_loop0 sh ph xs i)
    else
      if ((Option.isSome header.value) && (!(Option.elim header.value false (fun x => (let y := (List.getD ph i default).value; isInfix x y))))) then
        false
      else
        let i : Nat := (i + 1)
        (headersMatch_loop0 sh ph xs i)
def headersMatch (sh : List SigHdr) (ph : List Hdr) : Bool :=
  let i : Nat := 0
  headersMatch_loop0 sh ph sh i


end P0f.Ref

namespace P0f
open P0f.Py

theorem hm_while_spec (sh : List SigHdr) (ph : List Hdr) (h : SigHdr) (oi : Nat) (fuel i : Nat)
    (hi : i ≤ ph.length) (hf : ph.length - i < fuel) :
    Ref.headersMatch_while0 sh ph h oi fuel i = some (advance ph h.name i (ph.length - i)) := by
  induction fuel generalizing i with
  | zero => omega
  | succ f ih =>
    unfold Ref.headersMatch_while0
    by_cases hlt : i < ph.length
    · have hget : ph[i]? = some ph[i] := List.getElem?_eq_getElem hlt
      rw [show ph.length - i = (ph.length - (i + 1)) + 1 by omega, advance, List.getD_eq_getElem?_getD, hget, Option.getD_some,
        decide_eq_true hlt, Bool.true_and]
      dsimp only
      split
      · exact ih (i + 1) (by omega) (by omega)
      · rfl
    · rw [decide_eq_false hlt, Bool.false_and, if_neg Bool.false_ne_true, show ph.length - i = 0 by omega, advance]

theorem ref_headersMatchLoop (sh : List SigHdr) (ph : List Hdr) (l : List SigHdr) (i : Nat) (hi : i ≤ ph.length) :
    Ref.headersMatch_loop0 sh ph l i = headersMatchGo ph l i := by
  induction l generalizing i with
  | nil => unfold Ref.headersMatch_loop0 headersMatchGo; rfl
  | cons h hs ih =>
    unfold Ref.headersMatch_loop0 headersMatchGo
    simp only [hm_while_spec sh ph h i (ph.length + 1) i hi (by omega), Option.getD_some]
    generalize hj : advance ph h.name i (ph.length - i) = j
    have hjle : j ≤ ph.length := hj ▸ advance_le ph h.name i _ hi
    by_cases hend : j = ph.length
    · rw [if_pos (beq_iff_eq.mpr hend), List.getElem?_eq_none (Nat.le_of_eq hend.symm), ih i hi]
    · have hlt : j < ph.length := by omega
      rw [if_neg (mt beq_iff_eq.mp hend), List.getD_eq_getElem?_getD, List.getElem?_eq_getElem hlt, Option.getD_some, ih (j + 1) hlt]
      dsimp only
      cases h.value with
      | none => rfl
      | some v => simp only [Option.isSome_some, Option.elim_some, Bool.true_and]; cases isInfix v ph[j].value <;> rfl

theorem ref_headersMatch (sh : List SigHdr) (ph : List Hdr) : Ref.headersMatch sh ph = headersMatch sh ph :=
  ref_headersMatchLoop sh ph sh 0 (Nat.zero_le _)

/-- C06 -/
theorem gen_headersMatch (sh : List SigHdr) (ph : List Hdr) : Gen.headersMatch sh ph = headersMatch sh ph := by
  first
  | exact rfl
  | (have hwhile : ∀ (fuel : Nat) (h : SigHdr) (oi i : Nat),
         Gen.headersMatch_while0 sh ph h oi fuel i = Ref.headersMatch_while0 sh ph h oi fuel i := by
       intro fuel
       induction fuel with
       | zero => intros; rfl
       | succ f ih =>
         intros
         unfold Gen.headersMatch_while0 Ref.headersMatch_while0
         simp only [ih] <;> grind
     have hloop : ∀ (l : List SigHdr) (i : Nat), Gen.headersMatch_loop0 sh ph l i = Ref.headersMatch_loop0 sh ph l i := by
       intro l
       induction l with
       | nil => intros; unfold Gen.headersMatch_loop0 Ref.headersMatch_loop0; rfl
       | cons h hs ih =>
         intros
         unfold Gen.headersMatch_loop0 Ref.headersMatch_loop0
         simp only [ih, hwhile] <;> grind (splits := 40)
     have : Gen.headersMatch sh ph = Ref.headersMatch sh ph := by
       unfold Gen.headersMatch Ref.headersMatch
       simp only [hloop] <;> grind
     rw [this]; exact ref_headersMatch sh ph)

end P0f
