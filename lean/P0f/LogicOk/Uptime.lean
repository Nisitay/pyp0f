import P0f.LogicOk.Prelude
import P0f.LogicOk.RoundFrequency
import P0f.LogicOk.Gates
import P0f.Model.UptimeFields
import P0f.Props.C13
import P0f.Generated.Logic.UptimePostInit
import P0f.Generated.Logic.FingerprintUptime
namespace P0f

theorem gen_uptimePostInit (ts : Nat) (raw : Q) (h : 0 ≤ Q.trunc raw) :
    Gen.uptimePostInit ts raw = uptimePostInit ts raw := by
  first
  | exact rfl
  | (unfold Gen.uptimePostInit uptimePostInit
     rw [gen_roundFrequency raw h]
     generalize roundFrequency (Q.trunc raw).toNat = f
     -- a literal is the cast of itself
     show (raw, (f : Int), Int.fdiv (Int.fdiv ts f) ((60 : Nat) : Int),
       Int.fdiv ((4294967295 : Nat) : Int) ((f * 60 * 60 * 24 : Nat) : Int)) = _
     simp only [fdiv_natCast])

/-- reference transcription of `fingerprint_uptime` in the translator's vocabulary (exact rationals `Q`, Python integer
    operations); `uptimeRef_eq_model` ties it to the model once, `gen_fingerprintUptime` compares what the translator
    prints from the working tree with it -/
def fingerprintUptimeRef (o : UpOpts) (isFragment : Bool) (t : Nat) (tsPrev : Nat) (tsNow : Nat) (now : Int) (received : Int) : Option (Option Int × Option (Q × Int × Int × Int)) :=
  if (!(validUptime isFragment t)) then
    none
  else
    if ((!(tsNow != 0)) || (!(tsPrev != 0))) then
      (some ((none : Option Int), (none : Option (Q × Int × Int × Int))))
    else
      let ms_diff := (now - received)
      let ts_diff := (Int.emod (((tsNow : Nat) : Int) - ((tsPrev : Nat) : Int)) 4294967296)
      let ts_diff_inv := (Int.emod (-ts_diff - 1) 4294967296)
      if ((!((decide (o.minWait ≤ ms_diff)) && (decide (ms_diff ≤ o.maxWait)))) || ((decide (ts_diff < (5 : Int))) || ((decide (ms_diff < o.grace)) && (Q.lt (Q.ofInt (Int.fdiv ts_diff_inv (1000 : Int))) (Q.div (Q.mk (o.maxScaleN : Int) o.maxScaleD) (Q.ofInt o.grace)))))) then
        (some ((none : Option Int), (none : Option (Q × Int × Int × Int))))
      else
        let raw_frequency : Q :=
          if (decide (ts_diff > ts_diff_inv)) then
            let raw_frequency := (Q.div (Q.mul (Q.ofInt ts_diff_inv) (Q.neg (Q.mk (1000) 1))) (Q.ofInt ms_diff))
            (raw_frequency)
          else
            let raw_frequency := (Q.div (Q.mul (Q.ofInt ts_diff) (Q.mk (1000) 1)) (Q.ofInt ms_diff))
            (raw_frequency)
        if (!((Q.le (Q.mk (o.minScaleN : Int) o.minScaleD) raw_frequency) && (Q.le raw_frequency (Q.mk (o.maxScaleN : Int) o.maxScaleD)))) then
          (some ((if (t != 2) then (some (-1)) else none), (none : Option (Q × Int × Int × Int))))
        else
          let uptime := (P0f.Gen.uptimePostInit tsNow raw_frequency)
          (some ((some uptime.2.1), (some uptime)))

theorem emod_tsDiff (a b : Nat) : Int.emod (((b : Nat) : Int) - ((a : Nat) : Int)) 4294967296 = ((tsDiff a b : Nat) : Int) :=
  (Int.toNat_of_nonneg (emod32_range _).1).symm

/-- `~x & 0xFFFFFFFF` of a residue `x` is `0xFFFFFFFF - x` -/
theorem emod32_compl {x : Int} (h0 : 0 ≤ x) (h1 : x < 4294967296) : Int.emod (-x - 1) 4294967296 = 4294967295 - x := by
  show (-x - 1) % 4294967296 = _
  -- one modulus up, the value is in range
  rw [← Int.add_emod_right, Int.emod_eq_of_lt (by omega) (by omega)]
  omega

theorem emod_tsInv (d : Nat) (h : d < TWO32) : Int.emod (-((d : Nat) : Int) - 1) 4294967296 = ((tsInv d : Nat) : Int) := by
  rw [emod32_compl (Int.natCast_nonneg d) (Int.ofNat_lt.mpr h), tsInv, Int.natCast_sub (Nat.le_sub_one_of_lt h),
    Int.natCast_sub (by decide)]
  rfl

/-! the exact rationals of the printed code are cross-multiplications -/
theorem q_grace (o : UpOpts) (hD : o.Dom) (inv : Nat) :
    (Q.ofInt (Int.fdiv ((inv : Nat) : Int) 1000)).lt (Q.div ⟨(o.maxScaleN : Int), o.maxScaleD⟩ (Q.ofInt o.grace))
      = decide ((((inv / 1000 : Nat) : Nat) : Int) * o.maxScaleD * o.grace < o.maxScaleN) := by
  have hg := hD.grace
  rw [Q.div_ofInt _ (by omega), show (1000 : Int) = ((1000 : Nat) : Int) from rfl, fdiv_natCast]
  simp only [Q.lt, Q.ofInt, Int.natCast_mul, Int.toNat_of_nonneg (show 0 ≤ o.grace by omega), Int.natCast_one, Int.mul_one,
    Int.mul_assoc]

theorem rawFreq_fwd (d : Nat) (ms : Int) (hms : 0 < ms) :
    ((Q.ofInt ((d : Nat) : Int)).mul { num := 1000, den := 1 }).div (Q.ofInt ms) = ⟨((d * 1000 : Nat) : Int), ms.toNat⟩ := by
  rw [Q.div_ofInt _ hms]
  simp [Q.mul, Q.ofInt]

theorem rawFreq_bwd (d : Nat) (ms : Int) (hms : 0 < ms) :
    ((Q.ofInt ((d : Nat) : Int)).mul (Q.neg { num := 1000, den := 1 })).div (Q.ofInt ms) = ⟨-((d * 1000 : Nat) : Int), ms.toNat⟩ := by
  rw [Q.div_ofInt _ hms]
  simp [Q.mul, Q.ofInt, Q.neg]

theorem ofUpOut_badReading (t : Nat) :
    ofUpOut (badReading t) = some (if (t != 2) = true then some (-1) else none, none) := by
  unfold badReading F_SYN
  cases t != 2 <;> rfl

/-- a non-positive reading is below a positive lower threshold -/
theorem q_le_min_neg (o : UpOpts) (hD : o.Dom) (n den : Nat) (hden : 0 < den) :
    Q.le ⟨(o.minScaleN : Int), o.minScaleD⟩ ⟨-(n : Int), den⟩ = false := by
  have h1 : 0 < (o.minScaleN : Int) * (den : Int) := Int.mul_pos (Int.natCast_pos.mpr hD.minPos) (Int.natCast_pos.mpr hden)
  have h2 : 0 ≤ (n : Int) * (o.minScaleD : Int) := Int.mul_nonneg (Int.natCast_nonneg _) (Int.natCast_nonneg _)
  rw [Q.le_mk, Int.neg_mul]
  exact decide_eq_false (by omega)

theorem q_range (o : UpOpts) (n den : Nat) :
    (Q.le ⟨(o.minScaleN : Int), o.minScaleD⟩ ⟨(n : Int), den⟩ && Q.le ⟨(n : Int), den⟩ ⟨(o.maxScaleN : Int), o.maxScaleD⟩)
      = decide (o.withinScale n den) := by
  rw [Q.le_mk_natCast, Q.le_mk_natCast, Bool.decide_and]

theorem uptimeRef_eq_model (o : UpOpts) (hD : o.Dom) (frag : Bool) (flags a b : Nat) (now rcv : Int) :
    fingerprintUptimeRef o frag (tcpType flags) a b now rcv
      = ofUpOut (fingerprintUptime o flags frag a b (now - rcv)) := by
  rw [fingerprintUptime_dom o hD]
  unfold fingerprintUptimeRef
  generalize now - rcv = ms
  simp only [emod_tsDiff, emod_tsInv _ (tsDiff_lt a b), q_grace o hD]
  generalize tsDiff a b = d
  simp only [apply_ite ofUpOut]
  refine ite_congr rfl (fun _ => rfl) fun _ => ?_
  refine ite_congr (by simp) (fun _ => rfl) fun _ => ?_
  -- the skip test: Boolean connectives to propositional ones, the tick count compared as a natural number
  have hskip : ((d : Int) < 5) = (d < 5) := propext Int.ofNat_lt
  refine ite_congr (by simp only [UpOpts.skips, hskip, Bool.or_eq_true, Bool.not_eq_true', ← Bool.decide_and,
    decide_eq_false_iff_not, decide_eq_true_eq]) (fun _ => rfl) fun hs => ?_
  have hms := hD.pos_of_not_skips hs
  have hden : 0 < ms.toNat := by omega
  by_cases hbk : d > tsInv d
  · rw [if_pos (Or.inl hbk), ofUpOut_badReading]
    simp only [gt_iff_lt, Int.ofNat_lt, hbk, decide_true, if_true, rawFreq_bwd _ ms hms, q_le_min_neg o hD _ _ hden, Bool.false_and,
      Bool.not_false]
  · simp only [gt_iff_lt, Int.ofNat_lt, hbk, decide_false, Bool.false_eq_true, if_false, rawFreq_fwd _ ms hms, q_range, false_or]
    by_cases hr : o.withinScale (d * 1000) ms.toNat
    · rw [if_neg (not_not_intro hr), decide_eq_true hr, if_neg (by simp),
        gen_uptimePostInit _ _ (by rw [Q.trunc_natCast]; exact Int.natCast_nonneg _)]
      simp only [uptimePostInit, Q.trunc_natCast, Int.toNat_natCast, ofUpOut]
    · rw [if_pos hr, decide_eq_false hr, if_pos (by simp), ofUpOut_badReading]

theorem fmod32 (x : Int) : Int.fmod x 4294967296 = Int.emod x 4294967296 :=
  Int.fmod_eq_emod_of_nonneg x (by decide)

theorem gen_fingerprintUptime (o : UpOpts) (hD : o.Dom) (frag : Bool) (flags a b : Nat) (now rcv : Int) :
    Gen.fingerprintUptime o frag (tcpType flags) a b now rcv
      = ofUpOut (fingerprintUptime o flags frag a b (now - rcv)) := by
  first
  | (-- the alias (`fingerprint_uptime` outside the translator's fragment) is the model's function on the masked type, where the
     -- statement has the flags: not `rfl`
     unfold Gen.fingerprintUptime fingerprintUptimeFields; rw [fingerprintUptime_type_idem])
  | (have gen_uptime_eq_ref : ∀ (t a b : Nat), Gen.fingerprintUptime o frag t a b now rcv = fingerprintUptimeRef o frag t a b now rcv := by
       intro t a b
       unfold Gen.fingerprintUptime fingerprintUptimeRef
       simp only [gen_validUptime, fmod32] <;> first
         | grind
         | (-- `~ts_diff & 0xFFFFFFFF` written as `0xFFFFFFFF - ts_diff` (refactors/rf10): the same, `ts_diff` being a residue
            have hr := emod32_range (((b : Nat) : Int) - ((a : Nat) : Int))
            simp only [emod32_compl hr.1 hr.2]
            grind)
     rw [gen_uptime_eq_ref]; exact uptimeRef_eq_model o hD frag flags a b now rcv)

/-- **C13 against the source text**: `fingerprint_uptime` as printed from the working tree equals the rational-arithmetic
    reading of the property (floats read as exact rationals), for all timestamps, clocks, types and thresholds in the
    documented domain. -/
theorem source_uptime_eq_spec (o : UpOpts) (hD : o.Dom) (frag : Bool) (flags a b : Nat) (now rcv : Int)
    (ha : a < TWO32) (hb : b < TWO32) :
    Gen.fingerprintUptime o frag (tcpType flags) a b now rcv = ofUpOut (specUptime o flags frag a b (now - rcv)) := by
  rw [gen_fingerprintUptime o hD, uptime_eq_spec o hD flags frag a b (now - rcv) ha hb]

end P0f
