import P0f.LogicOk.Dump
import P0f.LogicOk.SigParse
import P0f.Props.C18
import P0f.Props.C09Sig
import P0f.Props.C15
import P0f.LogicOk.Labels
/-
  Round trips with BOTH sides read from the source.  C18: the text `TCPOptions.dump` / `dump_quirks` print (as printed from the
  working tree) is accepted by `_parse_options` / `_parse_quirks` (as printed from the working tree) and denotes the same layout,
  EOL padding and quirk set.  Likewise C09's parse-of-render for `TCPSignature.parse` and C15's fixpoint for `Label.parse` /
  `Label.dump`.
-/
namespace P0f
open P0f.Py

/-- **C18, option layouts, source to source**: for every layout over kinds 0..255 and every EOL padding 0..255 -/
theorem source_layout_roundtrip (l : List Nat) (pad : Nat) (hk : ∀ k ∈ l, k ≤ 255) (hp : pad ≤ 255) :
    Gen.parseOptionsField (Gen.dumpLayout l pad) = some (optResOf (l, if 0 ∈ l then pad else 0)) := by
  rw [gen_dumpLayout, gen_parseOptionsField, dumpLayout_parse l pad hk hp]
  rfl

/-- **C18, quirk lists, source to source**: for every one of the 2^17 quirk sets legal for the signature's IP version -/
theorem source_quirks_roundtrip (qs : QSet) (v : Int)
    (hv : ∀ q, qs q = true → quirkInvalidFor (intToOpt v) q = false) :
    ∃ r, Gen.parseQuirksField (Gen.dumpQuirks qs) v = some r ∧ ∀ q, r q = qs q := by
  rw [gen_dumpQuirks, gen_parseQuirksField]
  exact dumpQuirks_parse qs (intToOpt v) hv

/-- **C09 (denotation of TCP signatures) against the source text**: `TCPSignature.parse`, as printed from the working
    tree, maps the canonical text of every well-formed signature to exactly that signature -/
theorem source_parseTcpSig_render (s : Sig) (h : s.WF) : Gen.parseTcpSig (renderTcpSig s) = some s := by
  rw [gen_parseTcpSig]; exact parseTcpSig_render_eq s h

/-- **C15 against the source text**: a label that `Label.parse` (as printed from the source) accepts is found again by the
    text `Label.dump` (as printed from the source) prints for it -/
theorem source_label_dump_fixpoint (t : List Char) (l : LabelM) (h : Gen.parseLabel t = some l) :
    Gen.parseLabel (Gen.dumpLabel l) = some l := by
  rw [gen_parseLabel] at h
  rw [gen_dumpLabel, gen_parseLabel]
  exact parseLabel_dump_fixpoint t l h

end P0f
