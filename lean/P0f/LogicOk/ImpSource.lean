import P0f.LogicOk.Impersonate
import P0f.LogicOk.ImpOptions
import P0f.Props.C05
import P0f.Props.C05Bytes
/-
  C05 / C14 with the impersonator's logic read from the source: `impersonate(...)` after the signature has been obtained, assembled
  from the PRINTED `_impersonate_ip`, the printed seq / ack / flags / urgptr part of `_impersonate_tcp`, the printed
  `_impersonate_options` and the printed `_impersonate_window`.  Hand-written here (binding glue): the IPv4 / IPv6 compatibility test
  of `impersonate`, the order of the calls, the fields copied unchanged (addresses, ports, fragment offset) and `_impersonate_payload`
  (the model's `impPayload`: Scapy payload objects are not printed).
-/
namespace P0f

def Gen.impTcp (s : Sig) (b : Base) (hops : Int) (mtu : Nat) (uptime : Option Int) (c : Choices) : Except ImpErr OutPkt :=
  if s.ipVer.isSome && s.ipVer != some b.ipVer then .error .valueError
  else
    let ip := Gen.impIp s b hops c
    let hdr := Gen.impTcpHeader s b c
    let opts := Gen.impOptions s b uptime c
    match Gen.impWindow s b opts mtu c with
    | none => .error .valueError
    | some win =>
      .ok { ipVer := b.ipVer, src := b.src, dst := b.dst, ttl := ip.1, tos := ip.2.1, ipId := ip.2.2.1, ipFlags := ip.2.2.2.1,
            ipFrag := if b.ipVer == 6 then 0 else b.ipFrag, ipOptLen := ip.2.2.2.2.1, fl := ip.2.2.2.2.2,
            sport := b.sport, dport := b.dport, seq := hdr.1, ack := hdr.2.1, flags := hdr.2.2.1, urp := hdr.2.2.2,
            window := win, opts := opts, payload := impPayload s b c }

/-- the packet assembled from the printed functions = the model's `impTcp`, for every base packet whose flag fields have the
    width of the wire fields -/
theorem gen_impTcp (s : Sig) (b : Base) (hops : Int) (mtu : Nat) (uptime : Option Int) (c : Choices)
    (hf : b.flags < 512) (hi : b.ipFlags < 8) :
    Gen.impTcp s b hops mtu uptime c = impTcp s b hops mtu uptime c := by
  unfold Gen.impTcp impTcp
  rw [gen_impIp s b hops c hi, gen_impTcpHeader s b c hf, gen_impOptions s b uptime c hf]
  simp only [gen_impWindow]
  unfold impIpFields
  by_cases hv : (s.ipVer.isSome && s.ipVer != some b.ipVer) = true
  · simp only [hv, if_true]
  · simp only [hv, Bool.false_eq_true, if_false]
    cases hw : impWindow s b (impOptions s b uptime c) mtu c with
    | error e =>
      cases impWindow_error hw
      rfl
    | ok win => rfl

/-- **C05 against the source text**: for every supported signature, admissible base packet, `extra_hops` below the signature TTL
    and the tolerance, and every outcome of the random draws inside the ranges drawn from, the packet assembled from the printed
    impersonator functions is returned without raising, its extracted signature matches the requested signature EXACTLY, at TTL
    distance `extra_hops` -/
theorem source_imp_exact (s : Sig) (b : Base) (hops d : Int) (mtu : Nat) (up : Option Int) (c : Choices)
    (hadm : Admissible b) (hsup : Supported s b) (hc : choicesOk s b up c = true)
    (hh0 : 0 ≤ hops) (hh1 : hops < s.ttl) (hh2 : hops ≤ d) :
    ∃ o, Gen.impTcp s b hops mtu up c = .ok o ∧ tcpMatchPkt s (extractOut o) d = some .exact ∧
      (s.ttl : Int) - ((extractOut o).ttl : Int) = hops := by
  rw [gen_impTcp s b hops mtu up c hadm.flagsLt hadm.ipFlagsLt]
  exact imp_exact_partial s b hops d mtu up c hadm hsup hc hh0 hh1 hh2

/-- the same down to the bytes Scapy serialises (C05, byte level) -/
theorem source_imp_exact_bytes (s : Sig) (b : Base) (hops d : Int) (mtu : Nat) (up : Option Int) (c : Choices)
    (hadm : Admissible b) (hsup : Supported s b) (hbf : b.Fits) (hc : choicesOk s b up c = true)
    (hh0 : 0 ≤ hops) (hh1 : hops < s.ttl) (hh2 : hops ≤ d) :
    ∃ o p, Gen.impTcp s b hops mtu up c = .ok o ∧
      (if b.ipVer = 4 then decodeV4 o.toBytes else decodeV6 o.toBytes) = some p ∧
      tcpMatchPkt s (pktSigOfPkt p 0) d = some .exact ∧
      (s.ttl : Int) - ((pktSigOfPkt p 0).ttl : Int) = hops := by
  rw [gen_impTcp s b hops mtu up c hadm.flagsLt hadm.ipFlagsLt]
  exact imp_exact_bytes s b hops d mtu up c hadm hsup hbf hc hh0 hh1 hh2

end P0f
