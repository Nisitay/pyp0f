import P0f.LogicOk.Labels
import P0f.Generated.Logic.GetRandom
import P0f.LogicOk.ParseFile
import P0f.Lemmas.Db
/-
  `RecordsDatabase.get_random` (C15) against the source text: which records a label text addresses.
-/
namespace P0f
open P0f.Py

/-- `Gen.dbLabelDump` (Glue/Records.lean) is hand-written: the dispatch of `record.label.dump()` on the label class, to the printed
    `Label.dump` -/
theorem gen_dbLabelDump (lb : DbLabel) : Gen.dbLabelDump lb = lb.dump := by
  cases lb with
  | mtu n => rfl
  | os l sys => simp only [Gen.dbLabelDump, DbLabel.dump, gen_dumpLabel]

/-- `get_random` as printed from the source (list comprehension with its filter, the emptiness test, the DatabaseError of a missing
    list) = the model's candidate list: exactly the records of the addressed list whose label dumps to the given text, in file order
    (C15), on a store whose records all carry a label -/
theorem gen_getRandom (db : Db) (raw : List Char) (k : RecKind) (d : Option Dir) (hl : db.Labelled) :
    Gen.getRandom db raw k d = Db.candidates db raw k d := by
  first
  | exact rfl
  | (unfold Gen.getRandom Db.candidates
     cases hi : Db.iter db k d with
     | error e => cases Db.iter_error hi; rfl
     | ok l =>
       obtain ⟨s, hs⟩ := Db.iter_ok hi
       have hf : (List.filter (fun record => raw == (Option.elim record.label [] Gen.dbLabelDump)) l)
           = l.filter (·.labelIs raw) := by
         apply List.filter_congr
         intro r hr
         unfold DbRec.labelIs
         cases hlab : r.label with
         | none => exact absurd hlab (hl s l r hs hr)
         | some lb => simp only [Option.elim_some, gen_dbLabelDump]
       simp only [Except.toOption, Option.elim_some, List.map_id', hf, Bool.not_not])

/-- **C15 against the source text, for loaded databases**: on the store the printed `_parse_file` returns for ANY file, the printed
    `get_random` addresses exactly the records of the list whose label dumps (the printed `Label.dump`) to the given text -/
theorem source_getRandom_loaded (ls : List (List Char)) (db : Db) (h : Gen.parseFileLines ls = .ok db)
    (raw : List Char) (k : RecKind) (d : Option Dir) :
    Gen.getRandom db raw k d = Db.candidates db raw k d := by
  rw [gen_parseFileLines] at h
  exact gen_getRandom db raw k d (parseLines_labelled ls db h)

end P0f
