import P0f.LogicOk.Prelude
import P0f.Model.Mtu
import P0f.Generated.Logic.ShouldFingerprint
import P0f.Generated.Logic.ValidTcp
import P0f.Generated.Logic.ValidUptime
import P0f.Generated.Logic.ValidMtu
namespace P0f

theorem gen_shouldFingerprint (f : Bool) (t : Nat) : Gen.shouldFingerprint f t = shouldFingerprint f t := by
  first
  | exact rfl
  | (unfold Gen.shouldFingerprint shouldFingerprint hasAll F_SYN F_FIN F_RST
     grind)

theorem gen_validTcp (f : Bool) (t : Nat) : Gen.validTcp f t = validTcp f t := by
  first
  | exact rfl
  | (unfold Gen.validTcp validTcp F_SYN F_ACK
     simp only [gen_shouldFingerprint] <;> grind)

theorem gen_validUptime (f : Bool) (t : Nat) : Gen.validUptime f t = validUptime f t := by
  first
  | exact rfl
  | (unfold Gen.validUptime validUptime F_SYN F_ACK
     simp only [gen_shouldFingerprint] <;> grind)

theorem gen_validMtu (f : Bool) (t m : Nat) : Gen.validMtu f t m = validMtu f t m := by
  first
  | exact rfl
  | (unfold Gen.validMtu validMtu F_SYN F_ACK
     simp only [gen_shouldFingerprint] <;> grind)

end P0f
