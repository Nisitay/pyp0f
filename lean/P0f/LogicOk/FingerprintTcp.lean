import P0f.LogicOk.Prelude
import P0f.LogicOk.Gates
import P0f.LogicOk.FindTcpMatch
import P0f.Model.Api
import P0f.Generated.Logic.PktSigFromPacket
import P0f.Generated.Logic.FingerprintTcp
/-
  The glue of `fingerprint_tcp` against the source text: `TCPPacketSignature.from_packet` (which header fields and option
  values go into the packet signature, the peer MSS only on a SYN+ACK) and `fingerprint_tcp` itself (gate, direction by
  packet type, search, distance) - composed of the printed `find_tcp_match`, `tcp_signatures_match`, window multiplier and
  distance through their bridging theorems.
-/
namespace P0f

/-- `TCPPacketSignature.from_packet` (C03; C17: `syn_mss` only on SYN+ACK) -/
theorem gen_pktSigFromPacket (pk : PktL) (synMss : Nat) : Gen.pktSigFromPacket pk synMss = pktSigOfPkt pk synMss := by
  first
  | exact rfl
  | (unfold Gen.pktSigFromPacket pktSigOfPkt F_SYN F_ACK
     rfl)

/-- **`fingerprint_tcp` as printed from the source** = gate, then the model's `fingerprintTcp` on the direction the
    packet type selects (C02 direction separation, C01 / C17 through the composed pieces) -/
theorem gen_fingerprintTcp (db : TcpDb) (pk : PktL) (synMss : Nat) (d : Int) :
    Gen.fingerprintTcp db pk synMss d =
      if !validTcp pk.ip.isFragment pk.tcp.type then none
      else some (fingerprintTcp db (pktSigOfPkt pk synMss) (pk.tcp.type == F_SYN) d) := by
  first
  | exact rfl
  | (unfold Gen.fingerprintTcp fingerprintTcp F_SYN
     simp only [gen_validTcp, gen_pktSigFromPacket, gen_findTcpMatch, gen_distance]
     cases hv : validTcp pk.ip.isFragment pk.tcp.type
     · simp
     · cases ht : (pk.tcp.type == 2) <;> simp [pktSigOfPkt])

end P0f
