import P0f.LogicOk.Prelude
import P0f.Props.C06
import P0f.LogicOk.HeadersMatch
import P0f.Generated.Logic.HttpSignaturesMatch
import P0f.Generated.Logic.FindHttpMatch
import P0f.Generated.Logic.HttpDishonest
import P0f.Generated.Logic.HttpSoftware
/-
  `http_signatures_match`, `find_http_match`, `HTTPResult.__post_init__` and `HTTP.software` (C06) against the source text.
-/
namespace P0f
open P0f.Py

theorem gen_httpSigMatch (s : HttpSig) (minor : Nat) (ph : List Hdr) : Gen.httpSigMatch s minor ph = httpSigMatch s minor ph := by
  first
  | exact rfl
  | (unfold Gen.httpSigMatch httpSigMatch
     have ha {α : Type} (l : List α) (p : α → Bool) : (!(!(l.filter p).isEmpty)) = !l.any p := by
       rw [Bool.not_not, Bool.eq_iff_iff]; simp [List.isEmpty_iff]
     first
     | (simp only [optInt_beq_wild, optInt_beq_cast, ha, gen_headersMatch]; done)
     -- the conjunction as a ladder of early returns (`if not …: return False`), the version test negated with `!=`
     | (have hn : ∀ o : Option Nat, o.isNone = !o.isSome := fun o => by cases o <;> rfl
        simp only [optInt_beq_wild, optInt_bne_wild, optInt_beq_cast, optInt_bne_cast, ha, gen_headersMatch, hn]; grind))

theorem gen_findHttpLoop (recs : List HttpRec) (minor : Nat) (ph : List Hdr) (l : List HttpRec) (g : Option HttpRec) :
    Gen.findHttpMatch_loop0 recs minor ph l g = findHttpLoop minor ph l g := by
  first
  | exact rfl
  | (induction l generalizing g with
     | nil => unfold Gen.findHttpMatch_loop0 findHttpLoop; rfl
     | cons r rs ih =>
       unfold Gen.findHttpMatch_loop0 findHttpLoop
       rw [gen_httpSigMatch]
       cases httpSigMatch r.sig minor ph <;> cases r.generic <;> cases g <;> simp [ih])

theorem gen_findHttpMatch (recs : List HttpRec) (minor : Nat) (ph : List Hdr) :
    Gen.findHttpMatch recs minor ph = findHttpMatch recs minor ph := by
  first
  | exact rfl
  | (unfold Gen.findHttpMatch findHttpMatch
     exact gen_findHttpLoop recs minor ph recs none)

/-- `HTTPResult.__post_init__` -/
theorem gen_dishonest (m : Option HttpRec) (ph : List Hdr) : Gen.dishonest m ph = dishonest m ph := by
  first
  | exact rfl
  | (unfold Gen.dishonest dishonest
     rcases m with _ | r
     · simp
     · cases softwareOf ph <;> cases h : r.sig.software <;> simp [h])

/-- `HTTP.software` (with `_get_header_value` inlined) as printed from the source = the model's: the User-Agent value unless it is
    missing or empty, else the Server value (C06: what `dishonest` compares with the signature's expected software) -/
theorem gen_softwareOf (ph : List Hdr) : Gen.softwareOf ph = softwareOf ph := by
  first
  | exact rfl
  | (unfold Gen.softwareOf softwareOf
     have hv (name : Bytes) :
         firstHit ph (fun h => lower h.name == lower name) (fun h => some h.value) none = headerValue ph name := by
       unfold firstHit headerValue; cases ph.find? _ <;> rfl
     simp only [hv]
     cases headerValue ph "User-Agent".toList with
     | none => rfl
     | some v => cases h : v.isEmpty <;> simp [h])

/-- **C06 (selection) against the source text** -/
theorem source_findHttpMatch_eq_spec (recs : List HttpRec) (minor : Nat) (ph : List Hdr) :
    Gen.findHttpMatch recs minor ph = specFindHttp recs minor ph := by
  rw [gen_findHttpMatch]; exact findHttpMatch_eq_spec recs minor ph

end P0f
