import P0f.LogicOk.SigParse
import P0f.Model.DbParse
import P0f.Generated.Logic.ParseMtuSig
import P0f.Generated.Logic.ParseLabel
import P0f.Generated.Logic.DumpLabel
import P0f.Generated.Logic.ParseSection
/-
  `MTUSignature.parse`, `Label.parse`, `Label.dump`, `_parse_section` (C09, C10, C15) against the source text.
-/
namespace P0f
open P0f.Py

/-- `MTUSignature.parse`: 1 … 65535, no wildcard -/
theorem gen_parseMtuSig (raw : List Char) : Gen.parseMtuSig raw = (parseMtuSig raw).map fun (n : Nat) => (n : Int) := by
  first
  | exact rfl
  | (unfold Gen.parseMtuSig parseMtuSig
     simp only [Bool.false_and, Bool.false_eq_true, if_false, parseNumber_inlined, parseNumber_ofNat, elim_none_some])

theorem gen_parseLabel (raw : List Char) : Gen.parseLabel raw = parseLabel raw := by
  first
  | exact rfl
  | (unfold Gen.parseLabel parseLabel
     obtain ⟨ty, cls, name, flavor, h4⟩ := exists_of_length_eq_four (splitParts_len ':' 4 raw)
     have e1 : ("g".toList) = ['g'] := by decide +kernel
     simp only [h4, List.getD_cons_zero, List.getD_cons_succ, elim_none_some, letterS_eq, e1]
     cases ty == ['s'] <;> cases ty == ['g'] <;> rfl)

/-- C15: dumping a label gives back the text written in the file -/
theorem gen_dumpLabel (l : LabelM) : Gen.dumpLabel l = l.dump := by
  first
  | exact rfl
  | (unfold Gen.dumpLabel LabelM.dump
     cases l.generic <;> rfl)

/-- `_parse_section` as printed from the source = the model's: which section headers are accepted, with which record kind and
    direction (C09, C10) -/
theorem gen_parseSection (line : List Char) : Gen.parseSection line = (parseSection line).map fun s => (s.kind, s.dir) := by
  first
  | exact rfl
  | (unfold Gen.parseSection parseSection
     have e1 : ("]".toList) = [']'] := by decide +kernel
     simp only [e1, take_len_pred, elim_none_some]
     cases endsWith line [']']
     · rfl
     · generalize (partition ':' (List.drop 1 line).dropLast).1 = ty
       generalize (partition ':' (List.drop 1 line).dropLast).2.2 = dir
       -- both sides test the same five Booleans; every combination computes
       cases ty == "mtu".toList
       · cases ty == "tcp".toList
         · cases ty == "http".toList
           · rfl
           · cases dir == "request".toList <;> cases dir == "response".toList <;> rfl
         · cases dir == "request".toList <;> cases dir == "response".toList <;> rfl
       · cases dir.isEmpty <;> rfl)

end P0f
