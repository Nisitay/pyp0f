import P0f.LogicOk.Prelude
import P0f.Generated.Logic.WindowMultiplier
import P0f.Props.C17
namespace P0f
/-- `if c: l.append(x)` adds the guarded piece: the running list is not copied into both branches -/
theorem append_ite {α : Type} (c : Prop) [Decidable c] (l x : List α) :
    (if c then l ++ x else l) = l ++ (if c then x else []) := by
  split <;> simp
theorem append_append_ite {α : Type} (c : Prop) [Decidable c] (l x y : List α) :
    (if c then l ++ x ++ y else l) = l ++ (if c then x ++ y else []) := by
  split <;> simp

/-- the first-hit search of `calculate_window_multiplier`, Python arithmetic against the model's -/
theorem firstHit_divides (win : Nat) (l : List (Int × Bool)) :
    firstHit l (fun x => (x.1 != 0 && !(Int.fmod ((win : Nat) : Int) x.1 != 0)))
      (fun x => (Int.fdiv ((win : Nat) : Int) x.1, x.2)) ((-1 : Int), false)
    = (match l.find? (divides win) with | some (d, m) => ((win : Int) / d, m) | none => ((-1 : Int), false)) := by
  have hp : (fun x : Int × Bool => x.1 != 0 && !(Int.fmod ((win : Nat) : Int) x.1 != 0)) = divides win := by
    funext x; simp only [divides, fmod_bne_zero, Bool.not_not]
  unfold firstHit
  rw [hp]
  cases h : l.find? (divides win) with
  | none => rfl
  | some x =>
    -- the divisor found divides the window, so floor and Euclidean quotient agree
    have hx : divides win x = true := List.find?_some h
    rw [divides, Bool.and_eq_true, beq_iff_eq] at hx
    simp only [Int.fdiv_eq_ediv_of_dvd (Int.dvd_of_emod_eq_zero hx.2)]

/-- `TCPPacketSignature.calculate_window_multiplier` (C17, C01) -/
theorem gen_windowMult (p : WIn) : Gen.windowMult p = windowMult p := by
  first
  | exact rfl
  | (unfold Gen.windowMult windowMult
     refine ite_congr (by simp) (fun _ => rfl) fun _ => ?_
     first
     | (-- the candidate list as the model writes it: guarded pieces appended in source order
        simp only [append_ite, append_append_ite, firstHit_divides, divisors, MIN_TCP4, MIN_TCP6, WILDCARD]
        simp only [List.append_assoc, List.nil_append, List.cons_append, bne_iff_ne, beq_iff_eq, ne_eq, Int.natCast_add,
          Int.reduceSub, Int.reduceNeg, Int.cast_ofNat_Int]
        rfl)
     | (-- the search written as a general loop (`if not div: continue`, `divmod`: refactors/rf06; only then is
        -- `Gen.windowMult_loop0` printed): shown equal to the first-hit search first
        have hl : ∀ (dv l : List (Int × Bool)), Gen.windowMult_loop0 p dv l
            = firstHit l (fun x => (x.1 != 0 && !(Int.fmod ((p.win : Nat) : Int) x.1 != 0)))
                (fun x => (Int.fdiv ((p.win : Nat) : Int) x.1, x.2)) ((-1 : Int), false) := by
          intro dv l
          induction l with
          | nil => unfold Gen.windowMult_loop0 firstHit; rfl
          | cons a t ih =>
            unfold Gen.windowMult_loop0
            simp only [ih]
            unfold firstHit
            -- the loop's two tests are the conjuncts of the search predicate
            by_cases h1 : a.1 = 0
            · simp [h1]
            · by_cases h2 : Int.fmod ((p.win : Nat) : Int) a.1 = 0 <;> simp [List.find?_cons, h1, h2]
        simp only [hl]
        rw [firstHit_divides]
        unfold divisors MIN_TCP4 MIN_TCP6
        by_cases h1 : p.ts = 0 <;> by_cases h2 : p.ipVer = 6 <;> by_cases h3 : p.synMss = 0 <;>
          simp [h1, h2, h3, WILDCARD] <;> rfl))

/-- **C17 against the source text**: the printed `calculate_window_multiplier` returns `window / d` with the MTU flag of the FIRST
    documented divisor that divides the window -/
theorem source_windowMult_first (p : WIn) (d : Int) (m : Bool) (hb : HasBase p) (h : FirstDivisor p d m) :
    Gen.windowMult p = ((p.win : Int) / d, m) := by
  rw [gen_windowMult]; exact (windowMult_first p d m hb h).1

/-- and WILDCARD when there is no base or no divisor -/
theorem source_windowMult_none (p : WIn) (h : ¬ HasBase p ∨ NoDivisor p) : Gen.windowMult p = (WILDCARD, false) := by
  rw [gen_windowMult]; exact windowMult_none p h

end P0f
