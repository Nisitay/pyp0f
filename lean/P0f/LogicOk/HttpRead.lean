import P0f.Model.Http
import P0f.Model.DbParse
import P0f.Props.C04Http
import P0f.Generated.Logic.ReadHeaders
import P0f.Generated.Logic.ReadFirstLine
import P0f.Generated.Logic.ReadPayload
import P0f.Generated.Logic.FingerprintHttp
import P0f.LogicOk.Http
import P0f.Model.Api
/-
  `read_headers` and `read_first_line` (C07, C04) against the source text, and `read_payload` composed from the printed parts.
-/
namespace P0f
open P0f.Py

/-- what is left of the header loop's outcome when the two error kinds are not told apart -/
def hdrsOf : Except HdrErr (List Hdr) → Option (List Hdr)
  | .ok h => some h
  | .error _ => none

/-- the printed header loop = the model's, on lines none of which is empty (`line[0]` is an IndexError on an empty line in
    the code and in the model; the printed loop totalises it - extracted lines are never empty, `extractLines_nonempty`) -/
theorem gen_readHeadersLoop (lines : List Bytes) : ∀ (ls : List Bytes) (acc : List Hdr), (∀ l ∈ ls, l ≠ []) →
    Gen.readHeaders_loop0 lines ls acc = hdrsOf (readHeadersGo ls acc) := by
  first
  | (intro ls acc _; rfl)
  | (intro ls
     induction ls with
     | nil => intros; unfold Gen.readHeaders_loop0 readHeadersGo; rfl
     | cons line rest ih =>
       intro acc hne
       obtain ⟨hline, hrest⟩ := List.forall_mem_cons.mp hne
       unfold Gen.readHeaders_loop0 readHeadersGo
       cases line with
       | nil => exact absurd rfl hline
       | cons c t =>
         have e1 : (" \t".toList) = [' ', '\t'] := by decide +kernel
         have e2 : ("\r\n".toList) = ['\r', '\n'] := by decide +kernel
         have e3 : (" ".toList) = [' '] := by decide +kernel
         simp only [e1, e2, e3, List.contains_cons, List.contains_nil, Bool.or_false, List.getD_cons_zero]
         by_cases hc : (c == ' ' || c == '\t') = true
         · simp only [hc, pynorm]
           -- a continuation line: `headers[-1]` of a list that is empty or ends in some `h`
           rcases List.eq_nil_or_concat acc with rfl | ⟨init, h, rfl⟩
           · rfl
           · have he : (init ++ [h]).isEmpty = false := by cases init <;> rfl
             simp only [List.concat_eq_append, List.getLast?_concat, List.dropLast_concat, List.getLastD_concat, he, pynorm,
               List.append_assoc, List.cons_append, List.nil_append]
             exact ih _ hrest
         · simp only [hc, pynorm]
           generalize partition ':' (c :: t) = pr
           obtain ⟨name, found, value⟩ := pr
           cases found with
           | false => rfl
           | true =>
             cases name.isEmpty with
             | true => rfl
             | false => simp only [pynorm]; exact ih _ hrest)

theorem gen_readHeaders (ls : List Bytes) (hne : ∀ l ∈ ls, l ≠ []) : Gen.readHeaders ls = hdrsOf (readHeadersGo ls []) := by
  first
  | exact rfl
  | (unfold Gen.readHeaders; exact gen_readHeadersLoop ls ls [] hne)

theorem gen_readFirstLine (line : Bytes) :
    Gen.readFirstLine line = (readFirstLine line).map fun r => (if r.1 then Dir.req else Dir.resp, r.2) := by
  first
  | exact rfl
  | (unfold Gen.readFirstLine readFirstLine
     dsimp only
     cases h0 : (splitWs 2 line)[0]? with
     | none => rfl
     | some p0 =>
       by_cases hg : (p0 == "GET".toList || p0 == "HEAD".toList) = true
       · simp only [hg, pynorm]
         cases (splitWs 2 line)[2]? with
         | none => rfl
         | some v => simp only [pynorm]; cases minorVersion v <;> rfl
       · -- `h0` is unused on the pinned source, where `cases` has replaced every `parts[0]?`; a source that computes the index
         -- (`parts[2 if is_request else 0]`) shows its `parts[0]?` only here, once the test is decided
         simp only [hg, h0, pynorm]
         cases minorVersion p0 <;> rfl)

def readOutOpt : ReadOut → Option (Dir × Nat × List Hdr)
  | .ok r m hs => some (if r then Dir.req else Dir.resp, m, hs)
  | _ => none

/-- **C07 / C04 against the source text**: for EVERY byte string, `read_payload` as printed from the working tree (calling the
    printed `read_first_line` and `read_headers`; h11's line extraction bound to the model's `extractLines`) gives the model's
    result (direction, minor version, header list in wire order) or rejects exactly when the model rejects -/
theorem source_readPayload (data : Bytes) : Gen.readPayload data = readOutOpt (readPayload data) := by
  -- no alias alternative: the same steps go through on the alias text of `read_payload`
  unfold readPayload Gen.readPayload
  cases he : extractLines data with
  | none => rfl
  | some ls =>
    cases ls with
    | nil => rfl
    | cons first rest =>
      have hrest := (List.forall_mem_cons.mp (extractLines_nonempty data _ he)).2
      simp only [pynorm, List.map_id', List.getD_cons_zero, List.drop_one, List.tail_cons, gen_readFirstLine,
        gen_readHeaders rest hrest]
      cases readFirstLine first with
      | none => rfl
      | some r =>
        simp only [pynorm]
        cases readHeadersGo rest [] with
        | ok hs => rfl
        | error e => cases e <;> rfl

/-- `fingerprint_http` as printed from the source (the printed `read_payload`, the printed search on the HTTP records of the
    message's direction, the printed `dishonest`) = the model's API function: PacketError for whatever the reader rejects - before the
    database is looked at -, DatabaseError for an unloaded database, else minor version, matched record and the dishonesty flag
    (C06, C04, C11) -/
theorem gen_fingerprintHttp (db : Db) (data : Bytes) :
    Gen.fingerprintHttp db data = (match apiFpHttp db data with | .ok r => .ok (r.2.1, r.2.2.1, r.2.2.2) | .error e => .error e) := by
  first
  | exact rfl
  | (unfold Gen.fingerprintHttp apiFpHttp
     rw [source_readPayload]
     cases hr : readPayload data with
     | ok isReq minor hs =>
       simp only [readOutOpt, Option.elim_some]
       cases isReq <;>
         (simp only [Bool.false_eq_true, if_false, if_true]
          cases hi : Db.iter db RecKind.http _ with
          | error e => rfl
          | ok l => simp only [Option.elim_some, gen_findHttpMatch, gen_dishonest])
     | packetError => rfl
     | indexError => rfl)

end P0f
