import P0f.LogicOk.Labels
import P0f.LogicOk.HttpSigParse
import P0f.Generated.Logic.ParseFile
import P0f.LogicOk.Attr
import P0f.Lemmas.Db
/-
  `_parse_file` (C09, C10, C11) against the source text: the line loop of the database parser, with its state machine
  (`ParserState`), the record store calls and the line numbers of `ParsingError`.
-/
namespace P0f
open P0f.Py

/-! `Gen.parseSigFor` and `Gen.parseLabelFor` (Glue/ParseFile.lean) are hand-written: the dispatch of `record_cls._signature_cls.parse`
    / `_label_cls.parse` on the record class, to the printed parsers. -/
theorem gen_parseSigFor (k : RecKind) (v : List Char) : Gen.parseSigFor k v = parseSigFor k v := by
  cases k <;> simp only [Gen.parseSigFor, parseSigFor, gen_parseMtuSig, gen_parseTcpSig, gen_parseHttpSig, Option.map_map,
    Function.comp_def, Int.toNat_natCast]

theorem gen_parseLabelFor (k : RecKind) (v : List Char) : Gen.parseLabelFor k v = parseLabelFor k v := by
  cases k <;> simp only [Gen.parseLabelFor, parseLabelFor, gen_parseLabel]

/-! ### A frozen copy of the printed loop (as generated from the pinned source).  `ref_parseFileLoop` shows the copy equal to the
    model by the case analysis below; `gen_eq_ref` shows the loop printed from the working tree equal to the copy.  So a harmless
    rewrite of `_parse_file` has to get past `gen_eq_ref` only and does not have to be matched by that case analysis. -/
namespace Ref
open P0f P0f.Py
def parseFileLoop (file : List (List Char)) : List (List Char) → Db → (Option Dir) → (Option DbLabel) → Nat → (Option RecKind) → PState → Except LoadErr Db
  | [], database, direction, label, line_number_next, record_cls, state =>
    (Except.ok database)
  | line :: xs, database, direction, label, line_number_next, record_cls, state =>
    let line_number : Nat := line_number_next
    let line_number_next : Nat := (line_number_next + 1)
    let line := (strip line)
    if ((!(!List.isEmpty line)) || (((List.take 1 (List.drop 0 line)) == ("\n".toList)) || ((List.take 1 (List.drop 0 line)) == (";".toList)))) then
      (parseFileLoop file xs database direction label line_number_next record_cls state)
    else
      if ((List.take 1 (List.drop 0 line)) == ("[".toList)) then
        Option.elim (P0f.Gen.parseSection line) (Except.error (LoadErr.parsing line_number)) (fun r0_1 =>
        let u4_0 := r0_1
        let record_cls := u4_0.1
        let direction := u4_0.2
        let database := (Db.createKD database record_cls direction)
        let state := PState.needLabel
        (parseFileLoop file xs database direction label line_number_next (some record_cls) state))
      else
        let u4_3 := (partition '=' line)
        let parameter := u4_3.1
        let value := u4_3.2.2
        let parameter := (strip parameter)
        let value := (strip value)
        Sum.elim (fun r => r) (fun (j4 : Db × PState × (Option DbLabel)) =>
          let database := j4.1
          let state := j4.2.1
          let label := j4.2.2
          (parseFileLoop file xs database direction label line_number_next record_cls state))
          ((if (parameter == ("sig".toList)) then
            Option.elim record_cls (
              (Sum.inl (Except.error (LoadErr.parsing line_number)))) (fun record_cls =>
              if (state != PState.needSig) then
                (Sum.inl (Except.error (LoadErr.parsing line_number)))
              else
                Option.elim (P0f.Gen.parseSigFor record_cls value) (Sum.inl (Except.error (LoadErr.parsing line_number))) (fun r0_2 =>
                let record := ({ label := label, sig := r0_2, raw := value, line := line_number } : DbRec)
                Option.elim (Db.addKD database record_cls direction record) (Sum.inl (Except.error LoadErr.database)) (fun r1_3 =>
                let database := r1_3
                (Sum.inr (database, state, label)))))
          else
            if (parameter == ("label".toList)) then
              Option.elim record_cls (
                (Sum.inl (Except.error (LoadErr.parsing line_number)))) (fun record_cls =>
                if (!((state == PState.needLabel) || (state == PState.needSig))) then
                  (Sum.inl (Except.error (LoadErr.parsing line_number)))
                else
                  let state := PState.needSig
                  Option.elim (P0f.Gen.parseLabelFor record_cls value) (Sum.inl (Except.error (LoadErr.parsing line_number))) (fun r0_4 =>
                  let label := r0_4
                  Sum.elim (fun r => (Sum.inl r)) (fun (state : PState) =>
                    (Sum.inr (database, state, (some label))))
                    ((if ((DbLabel.isOs label) && label.isUserApp) then
                      let state := PState.needSys
                      (Sum.inr (state))
                    else
                      (Sum.inr (state))) : Sum (Except LoadErr Db) (PState))))
            else
              Sum.elim (fun r => (Sum.inl r)) (fun (j7 : (Option DbLabel) × PState) =>
                let label := j7.1
                let state := j7.2
                (Sum.inr (database, state, label)))
                ((if (parameter == ("sys".toList)) then
                  if ((state != PState.needSys) || (!(Option.elim label false DbLabel.isOs))) then
                    (Sum.inl (Except.error (LoadErr.parsing line_number)))
                  else
                    let label : Option DbLabel := (Option.map (DbLabel.withSys (split ',' value)) label)
                    let state := PState.needSig
                    (Sum.inr (label, state))
                else
                  if (!((parameter == ("classes".toList)) || (parameter == ("ua_os".toList)))) then
                    (Sum.inl (Except.error (LoadErr.parsing line_number)))
                  else
                    (Sum.inr (label, state))) : Sum (Except LoadErr Db) ((Option DbLabel) × PState))) : Sum (Except LoadErr Db) (Db × PState × (Option DbLabel)))
end Ref

def dbOf : Except LoadErr PSt → Except LoadErr Db
  | .ok st => .ok st.db
  | .error e => .error e

theorem ref_parseFileLoop (file : List (List Char)) : ∀ (ls : List (List Char)) (n : Nat) (db : Db) (state : PState) (sec : Option Section)
    (label : Option DbLabel),
    Ref.parseFileLoop file ls db (sec.bind Section.dir) label n (sec.map Section.kind) state
      = dbOf (parseGo ls n { db := db, state := state, label := label, sec := sec }) := by
  intro ls
  induction ls with
  | nil => intros; rfl
  | cons raw ls ih =>
    intro n db state sec label
    unfold Ref.parseFileLoop parseGo stepLine
    have e1 : ("\n".toList) = ['\n'] := by decide +kernel
    have e2 : (";".toList) = [';'] := by decide +kernel
    have e3 : ("[".toList) = ['['] := by decide +kernel
    simp only [e1, e2, e3]
    cases hl : strip raw with
    | nil => simp [ih]
    | cons c t =>
      simp only [take1_cons, List.isEmpty_cons, List.head?_cons, Bool.not_false, Bool.not_true, Bool.false_or, Bool.false_eq_true,
        if_false, Bool.or_comm (c == '\n')]
      generalize strip (partition '=' (c :: t)).fst = param
      generalize strip (partition '=' (c :: t)).snd.snd = value
      -- the tests that classify the line, in the order both sides make them; each decided test is taken off both sides
      by_cases hsk : (c == ';' || c == '\n') = true
      · rw [if_pos hsk, if_pos hsk]; exact ih _ _ _ _ _
      rw [if_neg hsk, if_neg hsk]
      by_cases hb : (c == '[') = true
      · rw [if_pos hb, if_pos hb, gen_parseSection]
        cases parseSection (c :: t) with
        | none => rfl
        | some s => simp only [pynorm, createKD_section]; exact ih _ _ _ (some s) _
      rw [if_neg hb, if_neg hb]
      by_cases hsig : (param == "sig".toList) = true
      · rw [if_pos hsig, if_pos hsig]
        cases sec with
        | none => cases state <;> rfl
        | some s =>
          simp only [pynorm, gen_parseSigFor, addKD_section]
          cases state <;> try rfl  -- outside `needSig` both sides report a misplaced `sig`
          simp only [pynorm]
          cases parseSigFor s.kind value with
          | none => rfl
          | some sg =>
            simp only [pynorm]
            cases hadd : db.add s { label := label, sig := sg, raw := value, line := n } with
            | ok db' => exact ih _ _ _ (some s) _
            | error e => cases Db.add_error hadd; rfl
      rw [if_neg hsig, if_neg hsig]
      by_cases hlab : (param == "label".toList) = true
      · rw [if_pos hlab, if_pos hlab]
        cases sec with
        | none => rfl
        | some s =>
          simp only [pynorm, gen_parseLabelFor]
          by_cases hst : (state == PState.needLabel || state == PState.needSig) = true
          · simp only [hst, pynorm]
            cases parseLabelFor s.kind value with
            | none => rfl
            | some lb =>
              -- `isinstance(label, Label) and label.is_user_app`: an `MTULabel` is never a user application
              have hu : (lb.isOs && lb.isUserApp) = lb.isUserApp := by cases lb <;> rfl
              simp only [hu, ← apply_ite Sum.inr, pynorm]
              exact ih _ _ _ (some s) _
          · simp only [hst, pynorm]; rfl
      rw [if_neg hlab, if_neg hlab]
      by_cases hsys : (param == "sys".toList) = true
      · rw [if_pos hsys, if_pos hsys]
        cases state <;> try (cases label <;> rfl)  -- outside `needSys` both sides report a misplaced `sys`
        cases label with
        | none => rfl
        | some lb =>
          cases lb with
          | mtu nm => rfl
          | os l sy => simp only [DbLabel.isOs, DbLabel.withSys, pynorm]; exact ih _ _ _ _ _
      rw [if_neg hsys, if_neg hsys]
      by_cases hskp : (param == "classes".toList || param == "ua_os".toList) = true
      · simp only [isSkippedParam, hskp, pynorm]; exact ih _ _ _ _ _
      · simp only [isSkippedParam, hskp, pynorm]; rfl

theorem ref_parseFile (ls : List (List Char)) :
    Ref.parseFileLoop ls ls Db.empty none none 1 none PState.needSection = parseLines ls :=
  ref_parseFileLoop ls ls 1 Db.empty PState.needSection none none

/-- the printed `_parse_file` of the working tree against the frozen copy of its loop, started the way the pinned source starts
    it.  By induction on the lines the printed loop agrees with the copy argument for argument, its line counter `k` behind the
    copy's: both loops are unfolded one step and the induction hypothesis is put in; on the pinned source `rfl` is what is left. -/
theorem gen_eq_ref (ls : List (List Char)) :
    Gen.parseFileLines ls = Ref.parseFileLoop ls ls Db.empty none none 1 none PState.needSection := by
  first
  | (rw [ref_parseFile]; exact rfl)  -- alias state: the printed function is the model's `parseLines`
  | (obtain ⟨n₀, k, hk, h₀, h⟩ : ∃ n₀ k, n₀ + k = 1 ∧
         Gen.parseFileLines ls = Gen.parseFileLines_loop0 ls ls Db.empty none none n₀ none PState.needSection ∧
         ∀ (l : List (List Char)) (db : Db) (dir : Option Dir) (label : Option DbLabel) (n : Nat) (rc : Option RecKind) (state : PState),
           Gen.parseFileLines_loop0 ls l db dir label n rc state = Ref.parseFileLoop ls l db dir label (n + k) rc state := by
       first
         | (refine ⟨1, 0, rfl, rfl, fun l => ?_⟩; simp only [Nat.add_zero])  -- `enumerate(file, start=1)`
         | refine ⟨0, 1, rfl, rfl, fun l => ?_⟩  -- a counter from 0, incremented first (`line_number = 0 … line_number += 1`)
       induction l with
       | nil => intros; rfl
       | cons x xs ih =>
         intro db dir label n rc state
         unfold Gen.parseFileLines_loop0 Ref.parseFileLoop
         simp only [ih]
         all_goals first
           | rfl
           -- a rewritten loop body (guards split, reordered or re-spelled, assignments moved): `grind` decides it by splitting on
           -- the optional values, which it does once `Option.elim` is a `match`; the parser state is split by hand because
           -- `state not in (A | B)` may come back as `state == C or state == D`, equal only because there are four states
           | (cases state <;> simp only [elim_eq_match] <;> grind (splits := 400) [Sum.elim_inl, Sum.elim_inr])
     rw [h₀, h, hk])

/-- `_parse_file` as printed from the source = the model's line loop: for every sequence of lines, the same record store or
    the same error, line number included (C09: what a load denotes; C10: which errors can leave it; C11: nothing is kept of a
    failed load, since the value is only returned at the end) -/
theorem gen_parseFileLines (ls : List (List Char)) : Gen.parseFileLines ls = parseLines ls := by
  rw [gen_eq_ref, ref_parseFile]

end P0f
