import P0f.LogicOk.Prelude
import P0f.Model.WireFields
import P0f.Lemmas.QSet
import P0f.Lemmas.TcpOptions
import P0f.Generated.Logic.TcpOptionsParse
/-
  `TCPOptions.parse` (the TCP option walk; C03, C04, C18 and through them C05) against the source text.

  Two stages, so that the long proof does not depend on the shape of what the translator prints today:
  `P0f.Ref.parseOpts` is a frozen copy of the definition the translator printed from the pinned source (two `while`
  loops as fuel-recursive definitions, `break` / `continue`, the struct table, all in Python's index arithmetic);
  `ref_parseOpts` proves it equal to the model's list-recursive `parseOpts` for every byte string - including that the
  fuel `len(buffer) + 1` is always enough, i.e. the loop of the source terminates; `gen_parseOpts` compares what the
  translator prints from the working tree with the frozen copy (by induction on the fuel), or holds by `rfl` when the
  function left the translator's fragment and the generated file is an alias of the model.
-/
namespace P0f.Ref
open P0f
set_option linter.unusedVariables false  -- the copies keep every parameter and binder of the printed text

def parseOpts_while1 (buf : List Nat) (is_syn : Bool) (eol_padding_length : Int) (layout : List Nat) (mss : Nat) (option_number : Nat) (options_end : Nat) (quirks : QSet) (timestamp : Nat) (window_scale : Nat) : Nat → Int → Option (Int)
  | 0, i => none
  | fuel + 1, i =>
    if ((decide (i < ((options_end : Nat) : Int))) && (!((List.getD buf (Int.toNat i) 0) != 0))) then
      let i : Int := (i + (1 : Int))
      (parseOpts_while1 buf is_syn eol_padding_length layout mss option_number options_end quirks timestamp window_scale fuel i)
    else
      (some (i))
def parseOpts_while0 (buf : List Nat) (is_syn : Bool) (options_end : Nat) : Nat → (List Nat) → Int → Int → QSet → Nat → Nat → Nat → Option ((List Nat) × Int × Int × QSet × Nat × Nat × Nat)
  | 0, layout, i, eol_padding_length, quirks, mss, window_scale, timestamp => none
  | fuel + 1, layout, i, eol_padding_length, quirks, mss, window_scale, timestamp =>
    if (decide (i < ((options_end : Nat) : Int))) then
      let option_number : Nat := (List.getD buf (Int.toNat i) 0)
      let layout := layout ++ [option_number]
      let i : Int := (i + (1 : Int))
      if (option_number == 0) then
        let eol_padding_length : Int := (((options_end : Nat) : Int) - i)
        let w4_2 : Int := Option.getD (parseOpts_while1 buf is_syn eol_padding_length layout mss option_number options_end quirks timestamp window_scale (buf.length + 1) i) (i)
        let i := w4_2
        let quirks : QSet :=
          if (i != ((options_end : Nat) : Int)) then
            let quirks := (QSet.union quirks (QSet.ofList [.eolNz]))
            (quirks)
          else
            (quirks)
        (some (layout, i, eol_padding_length, quirks, mss, window_scale, timestamp))
      else
        if (option_number == 1) then
          (parseOpts_while0 buf is_syn options_end fuel layout i eol_padding_length quirks mss window_scale timestamp)
        else
          if (i == ((options_end : Nat) : Int)) then
            let quirks := (QSet.union quirks (QSet.ofList [.bad]))
            (some (layout, i, eol_padding_length, quirks, mss, window_scale, timestamp))
          else
            let option_length : Nat := (List.getD buf (Int.toNat i) 0)
            let current_option_end : Int := ((i - (1 : Int)) + ((option_length : Nat) : Int))
            let i : Int := (i + (1 : Int))
            if (decide (current_option_end > ((options_end : Nat) : Int))) then
              let quirks := (QSet.union quirks (QSet.ofList [.bad]))
              (some (layout, i, eol_padding_length, quirks, mss, window_scale, timestamp))
            else
              if (decide (option_length < 2)) then
                let quirks := (QSet.union quirks (QSet.ofList [.bad]))
                (some (layout, i, eol_padding_length, quirks, mss, window_scale, timestamp))
              else
                Sum.elim (fun r => r) (fun (j8 : QSet × Nat × Nat × Nat) =>
                  let quirks := j8.1
                  let mss := j8.2.1
                  let window_scale := j8.2.2.1
                  let timestamp := j8.2.2.2
                  let i : Int := current_option_end
                  (parseOpts_while0 buf is_syn options_end fuel layout i eol_padding_length quirks mss window_scale timestamp))
                  ((if (option_number == 5) then
                    if (!((decide (10 ≤ option_length)) && (decide (option_length ≤ 34)))) then
                      let quirks := (QSet.union quirks (QSet.ofList [.bad]))
                      (Sum.inl (some (layout, i, eol_padding_length, quirks, mss, window_scale, timestamp)))
                    else
                      (Sum.inr (quirks, mss, window_scale, timestamp))
                  else
                    if ((option_number == 2) || (option_number == 3) || (option_number == 4) || (option_number == 8)) then
                      let j11 : QSet × Nat × Nat × Nat :=
                        if (option_length != (2 + (if option_number == 2 then 2 else (if option_number == 3 then 1 else (if option_number == 4 then 0 else (if option_number == 8 then 8 else 0)))))) then
                          let quirks := (QSet.union quirks (QSet.ofList [.bad]))
                          (quirks, mss, window_scale, timestamp)
                        else
                          if (option_number == 2) then
                            let mss : Nat := (if option_number == 2 then (be16 (List.drop 0 (List.take ((Int.toNat current_option_end) - (Int.toNat i)) (List.drop (Int.toNat i) buf)))) else (if option_number == 3 then (List.getD (List.drop 0 (List.take ((Int.toNat current_option_end) - (Int.toNat i)) (List.drop (Int.toNat i) buf))) 0 0) else (if option_number == 8 then (be32 (List.drop 0 (List.take ((Int.toNat current_option_end) - (Int.toNat i)) (List.drop (Int.toNat i) buf)))) else 0)))
                            (quirks, mss, window_scale, timestamp)
                          else
                            let j14 : Nat × QSet × Nat :=
                              if (option_number == 3) then
                                let window_scale : Nat := (if option_number == 2 then (be16 (List.drop 0 (List.take ((Int.toNat current_option_end) - (Int.toNat i)) (List.drop (Int.toNat i) buf)))) else (if option_number == 3 then (List.getD (List.drop 0 (List.take ((Int.toNat current_option_end) - (Int.toNat i)) (List.drop (Int.toNat i) buf))) 0 0) else (if option_number == 8 then (be32 (List.drop 0 (List.take ((Int.toNat current_option_end) - (Int.toNat i)) (List.drop (Int.toNat i) buf)))) else 0)))
                                if (decide (window_scale > 14)) then
                                  let quirks := (QSet.union quirks (QSet.ofList [.exws]))
                                  (window_scale, quirks, timestamp)
                                else
                                  (window_scale, quirks, timestamp)
                              else
                                if (option_number == 8) then
                                  let timestamp := (if option_number == 2 then (be16 (List.drop 0 (List.take ((Int.toNat current_option_end) - (Int.toNat i)) (List.drop (Int.toNat i) buf)))) else (if option_number == 3 then (List.getD (List.drop 0 (List.take ((Int.toNat current_option_end) - (Int.toNat i)) (List.drop (Int.toNat i) buf))) 0 0) else (if option_number == 8 then (be32 (List.drop 0 (List.take ((Int.toNat current_option_end) - (Int.toNat i)) (List.drop (Int.toNat i) buf)))) else 0)))
                                  let timestamp2 := (if option_number == 8 then (be32 (List.drop 4 (List.take ((Int.toNat current_option_end) - (Int.toNat i)) (List.drop (Int.toNat i) buf)))) else 0)
                                  let quirks : QSet :=
                                    if (!(timestamp != 0)) then
                                      let quirks := (QSet.union quirks (QSet.ofList [.zeroTs1]))
                                      (quirks)
                                    else
                                      (quirks)
                                  let quirks : QSet :=
                                    if ((timestamp2 != 0) && is_syn) then
                                      let quirks := (QSet.union quirks (QSet.ofList [.nzTs2]))
                                      (quirks)
                                    else
                                      (quirks)
                                  (window_scale, quirks, timestamp)
                                else
                                  (window_scale, quirks, timestamp)
                            let window_scale := j14.1
                            let quirks := j14.2.1
                            let timestamp := j14.2.2
                            (quirks, mss, window_scale, timestamp)
                      let quirks := j11.1
                      let mss := j11.2.1
                      let window_scale := j11.2.2.1
                      let timestamp := j11.2.2.2
                      (Sum.inr (quirks, mss, window_scale, timestamp))
                    else
                      if (!((decide (2 ≤ option_length)) && (decide (option_length ≤ 40)))) then
                        let quirks := (QSet.union quirks (QSet.ofList [.bad]))
                        (Sum.inl (some (layout, i, eol_padding_length, quirks, mss, window_scale, timestamp)))
                      else
                        (Sum.inr (quirks, mss, window_scale, timestamp))) : Sum (Option ((List Nat) × Int × Int × QSet × Nat × Nat × Nat)) (QSet × Nat × Nat × Nat))
    else
      (some (layout, i, eol_padding_length, quirks, mss, window_scale, timestamp))
def parseOpts (buf : List Nat) (is_syn : Bool) : List Nat × QSet × Nat × Nat × Nat × Int :=
  let layout : List Nat := []
  let quirks := QSet.empty
  let mss : Nat := 0
  let timestamp : Nat := 0
  let window_scale : Nat := 0
  let eol_padding_length : Int := (0 : Int)
  let i : Int := (0 : Int)
  let options_end : Nat := (List.length buf)
  let w1_1 : (List Nat) × Int × Int × QSet × Nat × Nat × Nat := Option.getD (parseOpts_while0 buf is_syn options_end (buf.length + 1) layout i eol_padding_length quirks mss window_scale timestamp) (layout, i, eol_padding_length, quirks, mss, window_scale, timestamp)
  let layout := w1_1.1
  let i := w1_1.2.1
  let eol_padding_length := w1_1.2.2.1
  let quirks := w1_1.2.2.2.1
  let mss := w1_1.2.2.2.2.1
  let window_scale := w1_1.2.2.2.2.2.1
  let timestamp := w1_1.2.2.2.2.2.2
  (layout, quirks, mss, timestamp, window_scale, eol_padding_length)


end P0f.Ref

namespace P0f

/-! ### the cursor: the printed loops index `buf`, the model recurses on the bytes still to read, `buf.drop i` -/

theorem cursor_cons {buf : List Nat} {i k : Nat} {rest : List Nat} (h : buf.drop i = k :: rest) :
    buf.getD i 0 = k ∧ buf.drop (i + 1) = rest ∧ i < buf.length ∧ buf.length = i + 1 + rest.length := by
  have hl := congrArg List.length h
  rw [List.length_drop, List.length_cons] at hl
  refine ⟨?_, ?_, by omega⟩
  · rw [List.getD_eq_getElem?_getD, ← Nat.add_zero i, ← List.getElem?_drop, h]; rfl
  · rw [← List.tail_drop, h]; rfl

/-- at the length byte of an option whose kind byte is at `i`, the code's two end tests: `i == options_end` fails,
    `current_option_end > options_end` is the model's `len > 2 + rest.length`; and a complete option ends at `i + len` -/
theorem option_end {buf : List Nat} {i len : Nat} {rest : List Nat} (h : buf.drop (i + 1) = len :: rest) :
    ¬ i + 1 = buf.length ∧ (buf.length < i + len ↔ len > 2 + rest.length) ∧
      (¬ len > 2 + rest.length → ¬ len < 2 → i + 1 + 1 + (len - 2) = i + len ∧ i < i + len ∧ i + len ≤ buf.length) := by
  have hl := (cursor_cons h).2.2.2
  omega

/-! the index arithmetic of the code (`i += 1`, `current_option_end = i - 1 + option_length`, the length of the body slice) on `Nat` -/
theorem cur_succ (i : Nat) : (i : Int) + 1 = ((i + 1 : Nat) : Int) := rfl
theorem cur_end (i ln : Nat) : ((i + 1 : Nat) : Int) - 1 + (ln : Int) = ((i + ln : Nat) : Int) := by omega
theorem cur_body (i ln : Nat) : i + ln - (i + 1 + 1) = ln - 2 := by rw [Nat.add_assoc, Nat.add_sub_add_left]

/-- the zero scan after an EOL: from any index, with enough fuel, it stops at an index that is the end of the buffer
    exactly when no non-zero byte follows -/
theorem while1_spec (buf : List Nat) (syn : Bool) (e : Int) (l : List Nat) (m k n : Nat) (q : QSet) (t w : Nat)
    (fuel i : Nat) (hi : i ≤ buf.length) (hf : buf.length - i < fuel) :
    ∃ i' : Nat, Ref.parseOpts_while1 buf syn e l m k buf.length q t w fuel (i : Int) = some (i' : Int) ∧
      ((i' : Int) != (buf.length : Int)) = (buf.drop i).any (· != 0) := by
  induction fuel generalizing i with
  | zero => exact absurd hf (Nat.not_lt_zero _)
  | succ f ih =>
    match hr : buf.drop i with
    | [] =>
      have hle := List.drop_eq_nil_iff.mp hr
      refine ⟨i, ?_, ?_⟩
      · simp only [Ref.parseOpts_while1, Int.ofNat_lt, Nat.not_lt.mpr hle, decide_false, Bool.false_and, Bool.false_eq_true, ↓reduceIte]
      · simp [Nat.le_antisymm hi hle]
    | x :: rest =>
      obtain ⟨hx, hd, c0, -⟩ := cursor_cons hr
      by_cases hz : x = 0
      · obtain ⟨i', h1, h2⟩ := ih (i + 1) c0 (by omega)
        refine ⟨i', ?_, ?_⟩
        · simp only [Ref.parseOpts_while1, Int.ofNat_lt, Int.toNat_natCast, c0, hx, hz, cur_succ, h1, decide_true, bne_self_eq_false,
            Bool.not_false, Bool.and_self, ↓reduceIte]
        · simp [h2, hd, hz]
      · refine ⟨i, ?_, ?_⟩
        · simp only [Ref.parseOpts_while1, Int.ofNat_lt, Int.toNat_natCast, c0, hx, bne_iff_ne.mpr hz, decide_true, Bool.not_true,
            Bool.and_false, Bool.false_eq_true, ↓reduceIte]
        · simp [bne_iff_ne.mpr (Nat.ne_of_lt c0), bne_iff_ne.mpr hz]

/-- what the main loop returns, as the tuple of loop-carried variables, for a final state `f` and some final index -/
def carriedOf (f : Opts) (i' : Int) : List Nat × Int × Int × QSet × Nat × Nat × Nat :=
  (f.layout, i', (f.eolPad : Int), f.quirks, f.mss, f.ws, f.ts)

/-- `option_number in OPTION_FORMATS` and `OPTION_FORMATS[option_number].size` (the struct table) are the model's `optSize` -/
theorem optSize_code (k : Nat) :
    (k == 2 || k == 3 || k == 4 || k == 8) = (optSize k).isSome ∧
      (if k = 2 then 2 else if k = 3 then 1 else if k = 4 then 0 else if k = 8 then 8 else 0) = (optSize k).getD 0 := by
  unfold optSize; grind

/-- the main loop, from any index and any state, with enough fuel, ends in the state of the model's walk on the bytes still to read -/
theorem while0_spec (buf : List Nat) (syn : Bool) (fuel : Nat) :
    ∀ (i : Nat) (o : Opts), i ≤ buf.length → buf.length - i < fuel →
    ∃ i' : Int, Ref.parseOpts_while0 buf syn buf.length fuel o.layout (i : Int) (o.eolPad : Int) o.quirks o.mss o.ws o.ts
      = some (carriedOf (parseOptsGo syn (buf.drop i) o) i') := by
  induction fuel with
  | zero => exact fun i o _ hf => absurd hf (Nat.not_lt_zero _)
  | succ f ih =>
    intro i o hi hf
    have next : ∀ j L (E : Nat) Q M W T, i < j → j ≤ buf.length → ∃ i' : Int,
        Ref.parseOpts_while0 buf syn buf.length f L (j : Int) (E : Int) Q M W T
          = some (carriedOf (parseOptsGo syn (buf.drop j) ⟨L, Q, M, T, W, E⟩) i') :=
      fun j L E Q M W T h1 h2 => ih j ⟨L, Q, M, T, W, E⟩ h2
        (Nat.lt_of_lt_of_le (Nat.sub_lt_sub_left (Nat.lt_of_lt_of_le h1 h2) h1) (Nat.le_of_lt_succ hf))
    clear ih
    generalize hr : buf.drop i = rest
    -- The cases of the model's walk, in the order of its definition.  Each `case'` collects what the guards of its shape say
    -- about the cursor; they decide every test of the printed body, so one `simp only` evaluates it, and what is left is a
    -- final tuple or the loop at a later index (`next`).
    fun_cases parseOptsGo syn rest o
    case' case1 =>   -- end of buffer
      have c0 : ¬ i < buf.length := Nat.not_lt.mpr (List.drop_eq_nil_iff.mp hr)
    case' case2 rest =>   -- EOL
      obtain ⟨hk, hd, c0, hl⟩ := cursor_cons hr
      have hl' : ((buf.length : Nat) : Int) - ((i + 1 : Nat) : Int) = ((rest.length : Nat) : Int) := by
        rw [hl, Int.natCast_add, Int.add_comm, Int.add_sub_cancel]
      -- `while1_spec`'s `n` does not occur in its statement
      obtain ⟨i', h1, h2⟩ := while1_spec buf syn rest.length (o.layout ++ [0]) o.mss 0 0 o.quirks o.ts o.ws
        (buf.length + 1) (i + 1) c0 (Nat.lt_succ_of_le (Nat.sub_le _ _))
      clear hl
    case' case3 =>   -- NOP
      obtain ⟨hk, rfl, c0, -⟩ := cursor_cons hr
    case' case4 =>   -- no length byte
      obtain ⟨hk, -, c0, hl⟩ := cursor_cons hr
      have c1 : i + 1 = buf.length := hl.symm
      clear hl
    -- a kind byte and a length byte: 5 length past the end, 6 length below 2, 7 / 8 SACK with a bad / good length,
    -- 9 / 10 fixed-format kind with a wrong / the right length, 11 / 12 unknown kind with a bad / good length
    case' case5 | case6 | case7 | case8 | case9 | case10 | case11 | case12 =>
      obtain ⟨hk, hd, c0, -⟩ := cursor_cons hr
      obtain ⟨c1, c2, hend⟩ := option_end hd
      obtain ⟨hln, rfl, -, -⟩ := cursor_cons hd
      clear hd
    case' case8 | case9 | case10 | case12 =>   -- a complete option: the walk goes on behind it
      obtain ⟨e, hlt, hle⟩ := hend ‹_› ‹_›   -- the case's two length guards
      rw [List.drop_drop, e]
      clear e
    case' case10 =>   -- the four fixed formats
      obtain ⟨rfl, rfl⟩ | ⟨rfl, rfl⟩ | ⟨rfl, rfl⟩ | ⟨rfl, rfl⟩ := (optSize_eq_some_iff _ _).mp ‹_›
    all_goals
      clear hr hi hf
      simp only [Ref.parseOpts_while0, *, -next, ↓reduceIte,
        cur_succ, cur_end, cur_body, Int.toNat_natCast, Int.ofNat_lt, natCast_beq_cast, gt_iff_lt, List.drop_zero,
        (optSize_code _).1, (optSize_code _).2, Option.isSome_none, Option.isSome_some, Option.getD_some,
        beq_iff_eq, beq_self_eq_true, bne_iff_ne, ne_eq, bne_eq_false_iff_eq, Nat.reduceEqDiff, Nat.reduceBEq, decide_true, decide_false,
        ← Bool.decide_and, ← decide_not, decide_eq_true_eq, Bool.false_eq_true, not_false_eq_true, Bool.not_false,
        Bool.not_eq_true', Bool.or_true, Bool.or_false,
        apply_ite Prod.fst, apply_ite Prod.snd, ite_self, Sum.elim_inl, Sum.elim_inr,
        Opts.addQuirk, Opts.pushKind, Opts.setEolPad, Opts.setMss, Opts.setWs, Opts.setTs, applyValue, addQuirkIf_eq, qinsert_eq_union]
    case case1 | case2 | case4 | case5 | case6 | case7 | case11 => exact ⟨_, rfl⟩   -- the walk stops
    case case3 => exact next (i + 1) _ _ _ _ _ _ (Nat.lt_succ_self i) c0
    all_goals exact next _ _ _ _ _ _ _ hlt hle   -- 8, 9, 10, 12

theorem ref_parseOpts (buf : List Nat) (syn : Bool) : Ref.parseOpts buf syn = optsTuple (parseOpts buf syn) := by
  unfold Ref.parseOpts parseOpts
  obtain ⟨i', h⟩ := while0_spec buf syn (buf.length + 1) 0 Opts.init (Nat.zero_le _) (Nat.lt_succ_self _)
  simp only [Opts.init, Int.natCast_zero, List.drop_zero] at h
  simp only [Opts.init, h, Option.getD_some, carriedOf, optsTuple]

/-- C03, C04, C18 against the source text -/
theorem gen_parseOpts (buf : List Nat) (syn : Bool) : Gen.parseOpts buf syn = optsTuple (parseOpts buf syn) := by
  first
  | exact rfl
  | (-- a loop of the working tree = its frozen copy: the recursive calls by induction on the fuel, a re-spelt body by `grind`
     have h1 : ∀ (fuel : Nat) (e : Int) (l : List Nat) (m k n : Nat) (q : QSet) (t w : Nat) (i : Int),
         Gen.parseOpts_while1 buf syn e l m k n q t w fuel i = Ref.parseOpts_while1 buf syn e l m k n q t w fuel i := by
       intro fuel
       induction fuel with
       | zero => intros; rfl
       | succ f ih =>
         intros
         unfold Gen.parseOpts_while1 Ref.parseOpts_while1
         simp only [ih] <;> grind
     have h0 : ∀ (fuel : Nat) (n : Nat) (l : List Nat) (i e : Int) (q : QSet) (m w t : Nat),
         Gen.parseOpts_while0 buf syn n fuel l i e q m w t = Ref.parseOpts_while0 buf syn n fuel l i e q m w t := by
       intro fuel
       induction fuel with
       | zero => intros; rfl
       | succ f ih =>
         intros
         unfold Gen.parseOpts_while0 Ref.parseOpts_while0
         simp only [ih, h1] <;> grind (splits := 60)
     rw [← ref_parseOpts]
     unfold Gen.parseOpts Ref.parseOpts
     simp only [h0] <;> grind)

end P0f
