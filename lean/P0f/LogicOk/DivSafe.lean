import P0f.LogicOk.Uptime
import P0f.LogicOk.Attr
import P0f.LogicOk.RoundFrequency
import P0f.Props.C13
import P0f.Generated.Logic.WindowMultiplier
import P0f.Generated.Logic.TcpSignaturesMatch
import P0f.Generated.Logic.ImpersonateOptions
import P0f.Generated.Logic.ReadHeaders
import P0f.Generated.Logic.ReadPayload
import P0f.Generated.Logic.ParseFile
import P0f.Props.C04Http
/-
  No ZeroDivisionError, no IndexError (C04, C10, C13): the safety companion the translator prints next to a function (same control
  skeleton, `false` exactly where a division is reached with a zero divisor or an index is out of range) is `true` for every
  input in the documented domain.
-/
namespace P0f

/-- a reading that passed `min_timestamp_scale <= raw_frequency` (a positive threshold) truncates to a non-negative integer -/
theorem trunc_nonneg_of_min (o : UpOpts) (hD : o.Dom) (r : Q)
    (h : Q.le (Q.mk (o.minScaleN : Int) o.minScaleD) r = true) : 0 ≤ Q.trunc r := by
  have h' : (o.minScaleN : Int) * r.den ≤ r.num * o.minScaleD := of_decide_eq_true h
  have hn : 0 ≤ r.num :=
    Int.nonneg_of_mul_nonneg_left (Int.le_trans (Int.mul_nonneg (Int.natCast_nonneg _) (Int.natCast_nonneg _)) h')
      (Int.natCast_pos.mpr hD.minD)
  exact Int.tdiv_nonneg hn (Int.natCast_nonneg _)

/-! A companion is the control skeleton of its function with `true` at every exit: a join (`Sum.elim`) is pushed through the `if` /
    `Option.elim` that feeds it, a test both of whose branches are `true` disappears, and what is left is the test in front of each
    division - discharged from the hypothesis. -/
theorem decide_length_le_zero {α : Type} (l : List α) : decide (l.length ≤ 0) = l.isEmpty := by cases l <;> simp
attribute [safe_skel] Sum.elim_ite Sum.elim_optElim Sum.elim_inl Sum.elim_inr Option.elim_self ite_self

/-- `Uptime.__post_init__` never divides by zero on a reading that truncates to a non-negative integer: `round_frequency` is
    positive there -/
theorem gen_uptimePostInit_safe (ts : Nat) (raw : Q) (h : 0 ≤ Q.trunc raw) : Gen.uptimePostInit_safe ts raw = true := by
  first
  | exact rfl
  | (unfold Gen.uptimePostInit_safe
     rw [gen_roundFrequency raw h]
     simp [Nat.ne_of_gt (roundFrequency_spec (Q.trunc raw).toNat).1])

/-- **C04 / C13: `fingerprint_uptime` never raises ZeroDivisionError** - for every packet pair, clock and threshold set of the
    documented domain, every division the printed function reaches (`… / ms_diff`, and through `Uptime(...)` the divisions by
    the rounded frequency) has a non-zero divisor.  (`max_timestamp_scale / timestamp_grace` sits inside an `and` chain: the companion
    checks it under the conjuncts before it.) -/
theorem gen_fingerprintUptime_safe (o : UpOpts) (hD : o.Dom) (frag : Bool) (t a b : Nat) (now rcv : Int) :
    Gen.fingerprintUptime_safe o frag t a b now rcv = true := by
  first
  | exact rfl
  | (unfold Gen.fingerprintUptime_safe
     -- for `grind`: `ms_diff` is at least `min_timestamp_wait ≥ 1`, and `Uptime(...)` is built behind the scale test
     have hw := hD.wait
     have fb : ∀ (ts : Nat) (r : Q), Q.le (Q.mk (o.minScaleN : Int) o.minScaleD) r = true → Gen.uptimePostInit_safe ts r = true :=
       fun ts r h => gen_uptimePostInit_safe ts r (trunc_nonneg_of_min o hD r h)
     simp only [isZero_ofInt]
     grind (splits := 60))

/-! The companion of a search `for x in l: if d(x) and g(x): return w // d(x)` checks twice that no `x` brings a zero divisor: to
    the division in the result, behind the whole test (`any_ne_and_and_eq`), and to one inside `g`, behind `d(x)` alone
    (`any_ne_and_eq`). -/
theorem any_ne_and_and_eq {α : Type} (l : List α) (f : α → Int) (g : α → Bool) :
    (List.any l fun x => ((f x != 0) && g x) && (f x == 0)) = false := by
  rw [List.any_eq_false]
  intro x _
  cases h : f x == 0 <;> simp [bne, h]

theorem any_ne_and_eq {α : Type} (l : List α) (f : α → Int) :
    (List.any l fun x => (f x != 0) && (f x == 0)) = false := by
  simp

theorem firstHit_const {α β : Type} (l : List α) (p : α → Bool) (b : β) : firstHit l p (fun _ => b) b = b := by
  unfold firstHit
  cases l.find? p <;> rfl

/-- **`calculate_window_multiplier` never divides by zero**: every candidate divisor is tested for truth before `window % div`
    and `window // div` (for every packet signature, `syn_mss = 12` included, where the candidate `syn_mss - 12` is 0) -/
theorem gen_windowMult_safe (p : WIn) : Gen.windowMult_safe p = true := by
  first
  | exact rfl
  | (unfold Gen.windowMult_safe
     first
     | (simp only [any_ne_and_eq, any_ne_and_and_eq, Bool.false_eq_true, if_false, firstHit_const, safe_skel]
        done)   -- fails on the loop shape below, where the rewriting stops at the call of the loop
     | (-- the search written as a general loop (`if not div: continue`, `divmod`: refactors/rf06; only then is
        -- `Gen.windowMult_safe_loop0` printed): safe for every list, since a zero divisor is skipped before it is used
        have hl : ∀ (dv l : List (Int × Bool)), Gen.windowMult_safe_loop0 p dv l = true := by
          intro dv l
          induction l with
          | nil => unfold Gen.windowMult_safe_loop0; rfl
          | cons a t ih =>
            unfold Gen.windowMult_safe_loop0
            simp only [ih]
            grind (splits := 40)
        simp only [hl, safe_skel]))

/-- a division by the window size sits behind the test for its window type: where the type is `w` the size is non-zero -/
theorem wsize_guard (s : Sig) (w : WinType) (h : s.wtype = w → s.wsize ≠ 0) :
    (s.wtype == w) = false ∨ (((s.wsize : Nat) : Int) == 0) = false := by
  by_cases hw : s.wtype = w
  · exact .inr (by simpa using h hw)
  · exact .inl (by simpa using hw)

/-- **`tcp_signatures_match` never divides by zero** on a signature whose `%n` window has a non-zero modulus (what
    `_parse_window` guarantees, `parseWindow_range`: 1 … 65535) -/
theorem gen_tcpSignaturesMatch_safe (s : Sig) (p : PSig) (maxDist : Int) (h : s.wtype = WinType.mod → s.wsize ≠ 0) :
    Gen.tcpSignaturesMatch_safe s p maxDist = true := by
  first
  | exact rfl
  | (unfold Gen.tcpSignaturesMatch_safe
     rcases wsize_guard s _ h with e | e <;>
       simp only [e, Bool.and_false, Bool.false_and, Bool.false_eq_true, if_false, safe_skel])

/-- **`_impersonate_options` never divides by zero** on a signature whose `mss*n` window has a non-zero multiplier (what
    `_parse_window` guarantees, `parseWindow_range`: 1 … 1000): the only division, `(2**16 - 1) // signature.window.size`, is behind
    the window-type test -/
theorem gen_impOptions_safe (s : Sig) (b : Base) (uptime : Option Int) (c : Choices) (h : s.wtype = WinType.mss → s.wsize ≠ 0) :
    Gen.impOptions_safe s b uptime c = true := by
  first
  | exact rfl
  | (have hl : ∀ (t : Nat) (ks : List Nat) (options : List SOpt) (cs : List (Nat × Nat)),
         Gen.impOptions_safe_loop0 s b uptime c t ks options cs = true := by
       intro t ks
       induction ks with
       | nil => intros; unfold Gen.impOptions_safe_loop0; rfl
       | cons k ks ih =>
         intro options cs
         unfold Gen.impOptions_safe_loop0
         simp only [ih, safe_skel]
         rcases wsize_guard s _ h with e | e <;> simp only [e, Bool.false_eq_true, if_false, ite_self]
     unfold Gen.impOptions_safe
     simp only [hl])

/-- **`read_headers` raises no IndexError** on lines none of which is empty: `line[0]` has a byte to read, `headers[-1]` is only
    touched behind `if not headers: raise` -/
theorem gen_readHeaders_safe (lines : List Bytes) (hne : ∀ l ∈ lines, l ≠ []) : Gen.readHeaders_safe lines = true := by
  first
  | exact rfl
  | (have hl : ∀ (ls : List Bytes) (acc : List Hdr), (∀ l ∈ ls, l ≠ []) → Gen.readHeaders_safe_loop0 lines ls acc = true := by
       intro ls
       induction ls with
       | nil => intros; unfold Gen.readHeaders_safe_loop0; rfl
       | cons line rest ih =>
         intro acc h
         obtain ⟨hline, hrest⟩ := List.forall_mem_cons.mp h
         unfold Gen.readHeaders_safe_loop0
         have hlen : decide (List.length line ≤ 0) = false := by
           rw [decide_length_le_zero, List.isEmpty_eq_false_iff]; exact hline
         cases acc.isEmpty <;>
           simp only [hlen, fun acc => ih acc hrest, Bool.not_true, Bool.not_false, Bool.false_eq_true, if_false, if_true, safe_skel]
     exact hl lines [] hne)

/-- **`read_payload` raises no IndexError, for EVERY byte string**: `lines[0]` is behind `if not lines`, and the lines h11 extracts
    are never empty (`extractLines_nonempty`), so `read_headers` is safe on them (C04 for the HTTP reader, at source level) -/
theorem gen_readPayload_safe (data : Bytes) : Gen.readPayload_safe data = true := by
  first
  | exact rfl
  | (unfold Gen.readPayload_safe
     cases he : extractLines data with
     | none => rfl
     | some ls =>
       cases ls with
       | nil => rfl
       | cons first rest =>
         have hs := gen_readHeaders_safe rest fun l hl => extractLines_nonempty data _ he l (List.mem_cons_of_mem _ hl)
         simp only [Option.elim_some, List.isEmpty_cons, List.map_id', List.length_cons, List.drop_one, List.tail_cons, hs,
           Nat.le_zero_eq, Nat.add_one_ne_zero, decide_false, Bool.not_true, Bool.false_eq_true, if_false, safe_skel])

/-- **`_parse_file` raises no IndexError, for EVERY sequence of lines**: `line[0]` is only read behind `if not line` (C10, at source
    level; the model keeps the IndexError as an outcome and `parseLines_closed` shows it unreachable - this is the same fact about
    the printed function) -/
theorem gen_parseFileLines_safe (ls : List (List Char)) : Gen.parseFileLines_safe ls = true := by
  first
  | exact rfl
  | (have hl : ∀ (l : List (List Char)) (db : Db) (dir : Option Dir) (label : Option DbLabel) (n : Nat) (rc : Option RecKind) (state : PState),
         Gen.parseFileLines_safe_loop0 ls l db dir label n rc state = true := by
       intro l
       induction l with
       | nil => intros; unfold Gen.parseFileLines_safe_loop0; rfl
       | cons x xs ih =>
         intros
         unfold Gen.parseFileLines_safe_loop0
         simp only [decide_length_le_zero]
         cases (Py.strip x).isEmpty <;>
           simp only [ih, Bool.not_true, Bool.not_false, Bool.true_and, Bool.false_and, Bool.true_or, Bool.false_or, Bool.false_eq_true,
             if_false, if_true, safe_skel]
     unfold Gen.parseFileLines_safe
     simp only [hl])

end P0f
