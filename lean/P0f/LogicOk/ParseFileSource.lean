import P0f.LogicOk.ParseFile
import P0f.Props.C09
import P0f.Props.C10
import P0f.Props.C11
/-
  C09 / C10 / C11 with the parser read from the source: the theorems of Props/C09, C10, C11 restated for `_parse_file` as
  printed from the working tree (`Gen.parseFileLines`), through the bridging theorem `gen_parseFileLines`.
-/
namespace P0f
open P0f.Py

/-- **C09 (main) against the source text**: whenever `_parse_file`, as printed from the working tree, returns a record store,
    it is exactly the store the lines denote (sections iff headers, one record per `sig` line with the most recent label,
    structured signature, raw text and line number, in file order) -/
theorem source_parseFile_records (ls : List (List Char)) (db : Db) (h : Gen.parseFileLines ls = .ok db) : db = specDb ls := by
  rw [gen_parseFileLines] at h; exact parseLines_records ls db h

/-- **C09, len, against the source text** -/
theorem source_parseFile_len (ls : List (List Char)) (db : Db) (h : Gen.parseFileLines ls = .ok db) :
    db.len = (ls.map classify).countP LineKind.isSig := by
  rw [gen_parseFileLines] at h; exact len_eq_sig_lines ls db h

/-- **C10, closure, against the source text**: for EVERY sequence of lines the printed `_parse_file` either returns or fails with
    `ParsingError(line)`, 1 ≤ line ≤ number of lines: no `IndexError` from `line[0]`, no plain `DatabaseError` from
    `database.add` (the section list always exists when a `sig` line is accepted) -/
theorem source_parseFile_closed (ls : List (List Char)) :
    (∃ db, Gen.parseFileLines ls = .ok db) ∨
      (∃ n, Gen.parseFileLines ls = .error (.parsing n) ∧ 1 ≤ n ∧ n ≤ ls.length) := by
  rw [gen_parseFileLines]; exact parseLines_closed ls

/-- **C10, which line, against the source text**: the line number the printed `_parse_file` reports is the first line that
    cannot be accepted in the state the lines before it lead to -/
theorem source_parseFile_error_line (ls : List (List Char)) (n : Nat) (h : Gen.parseFileLines ls = .error (.parsing n)) :
    1 ≤ n ∧ n ≤ ls.length ∧
      ∃ st1, parseGo (ls.take (n - 1)) 1 PSt.init = .ok st1 ∧
        stepLine st1 n (ls[n - 1]?.getD []) = .error (.parsing n) := by
  rw [gen_parseFileLines] at h; exact error_line_correct ls n h

/-- `Database.load` with the printed parser inside: parse into a fresh store, replace the live one only on success.
    Hand-written (`Database.load` itself is not translated): a copy of the model's `dbLoad` around `Gen.parseFileLines`. -/
def Gen.dbLoad (cur : Db) (f : FileArg) : Except LoadErr Db × Db :=
  match (match f with | .unreadable => (.error .database : Except LoadErr Db) | .text t => Gen.parseFileLines (pyLines t)) with
  | .ok db => (.ok db, db)
  | .error e => (.error e, cur)

theorem gen_dbLoad (cur : Db) (f : FileArg) : Gen.dbLoad cur f = dbLoad cur f := by
  unfold Gen.dbLoad dbLoad parseFile parseText
  cases f with
  | unreadable => rfl
  | text t => simp only [gen_parseFileLines]; rfl

/-- **C11 against the source text**: a load that fails (whatever the printed parser rejects, at whatever line) leaves the live
    store as it was -/
theorem source_failed_load_preserves (db : Db) (f : FileArg) (e : LoadErr) (h : (Gen.dbLoad db f).1 = .error e) :
    (Gen.dbLoad db f).2 = db := by
  rw [gen_dbLoad] at h ⊢
  exact dbLoad_error h

end P0f
