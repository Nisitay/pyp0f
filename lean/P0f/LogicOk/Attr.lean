import Lean.Meta.Tactic.Simp.RegisterCommand
/-
  Named simp sets of the bridging proofs (an attribute has to be declared in a module of its own).
  `qset_pt` (filled in Wire.lean): a quirk set at one quirk, and the Boolean normal form of the result.
  `safe_skel` (filled in DivSafe.lean): the control skeleton of a printed safety companion.
  `pynorm` (filled in Prelude.lean): what is left of the translator's control skeleton once a test is decided: Boolean
  constants, `if` on them, join points (`Sum.elim`), bound calls (`Option.elim`) on a known value.
-/
register_simp_attr qset_pt
register_simp_attr safe_skel
register_simp_attr pynorm
