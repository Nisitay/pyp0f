import P0f.LogicOk.Impersonate
import P0f.Lemmas.ImpOption
import P0f.Generated.Logic.ImpersonateOptions
/-
  `_impersonate_options` (C05, C14) against the source text: the option list the impersonator builds from the signature's layout,
  the base packet's hints and the drawn values.
-/
namespace P0f

/-- the `tcp_type` of `_impersonate_options` as the code computes it (mask, then the ack+ / ack- adjustment) = the model's -/
theorem codeTcpType_eq : ∀ (nz z : Bool) (f : Nat), f < 512 →
    (if nz then (f &&& (2 ||| 16)) ^^^ ((f &&& (2 ||| 16)) &&& 16) else if z then (f &&& (2 ||| 16)) ||| 16 else f &&& (2 ||| 16))
      = (let t := (if bit f F_SYN then F_SYN else 0) + (if bit f F_ACK then F_ACK else 0)
         if nz then clearBit t F_ACK else if z then setBit t F_ACK else t) := by
  intro nz z f _
  -- masking to SYN|ACK keeps exactly those two bits
  have ht : f &&& (2 ||| 16) = (if bit f F_SYN then F_SYN else 0) + (if bit f F_ACK then F_ACK else 0) := by
    show f &&& (2 ^ 1 ||| 2 ^ 4) = (if bit f (2 ^ 1) then 2 ^ 1 else 0) + (if bit f (2 ^ 4) then 2 ^ 4 else 0)
    rw [Nat.and_or_distrib_left, and_two_pow, and_two_pow, bit_two_pow, bit_two_pow]
    cases f.testBit 1 <;> cases f.testBit 4 <;> rfl
  simp only [ht, F_ACK, clearBit_two_pow _ 4, setBit_two_pow _ 4, Nat.reducePow]

/-- the hint test as the code spells it (`h is not None and lo <= h <= hi`, on an int-or-None hint) against the model's `inRange`;
    not used: the bridging proof goes through `hint_code`, which also covers the `<` spellings -/
theorem inRange_le_le (lo hi : Int) (h : Option Int) :
    (Option.isSome h && ((Option.elim h false fun y => decide (lo ≤ y)) && (Option.elim h false fun x => decide (x ≤ hi))))
      = (inRange lo hi h).isSome ∧ (∀ n, inRange lo hi h = some n → Int.toNat (Option.getD h 0) = n) := by
  cases h with
  | none => simp [inRange]
  | some v => by_cases hv : lo ≤ v ∧ v ≤ hi <;> simp [inRange, hv, ← Bool.decide_and]

/-- a hint is taken when the code's chained comparison accepts it, else `d` - whatever mix of `<` and `≤` the comparison is
    spelled with, as long as it describes `lo .. hi`; in the test's positive spelling and in the negated one
    (`h is None or not lo < h < hi`, with the branches swapped) -/
theorem hint_code {lo hi : Int} {P Q : Int → Prop} [DecidablePred P] [DecidablePred Q] (hPQ : ∀ v, P v ∧ Q v ↔ lo ≤ v ∧ v ≤ hi)
    (h : Option Int) (d : Nat) :
    (if (h.isSome && ((h.elim false fun y => decide (P y)) && h.elim false fun x => decide (Q x))) then (h.getD 0).toNat else d)
        = (inRange lo hi h).getD d ∧
      (if (h.isNone || !((h.elim false fun y => decide (P y)) && h.elim false fun x => decide (Q x))) then d else (h.getD 0).toNat)
        = (inRange lo hi h).getD d := by
  cases h with
  | none => exact ⟨rfl, rfl⟩
  | some v => by_cases hv : lo ≤ v ∧ v ≤ hi <;> simp [inRange, hv, ← Bool.decide_and, hPQ v]

/-- a signature value or its WILDCARD (`-1`): the fixed value if there is one, else `x` -/
theorem optInt_code (o : Option Nat) (x : Nat) : (if o.isNone then x else (optInt o).toNat) = o.getD x := by
  cases o <;> simp [optInt]

/-- `Option.elim` as a `match`, the statement of `elim_eq_match` (LogicOk/Prelude); not used -/
theorem elim_eq_match'' {α β : Type} (o : Option α) (e : β) (f : α → β) :
    o.elim e f = (match o with | none => e | some v => f v) := by cases o <;> rfl

theorem mssBounds_code (s : Sig) :
    (if (s.wtype == WinType.mss) = true then ((100 : Int), Int.fdiv 65535 ((s.wsize : Nat) : Int)) else ((0 : Int), (65535 : Int))) = mssBounds s := by
  rw [mssBounds, Int.fdiv_eq_ediv_of_nonneg _ (Int.natCast_nonneg _)]

/-! ### stage-1 reference: a frozen copy of the printed layout loop (as generated from the pinned source), the work on one
    layout entry apart from the loop around it; the printed loop of the working tree is first shown equal to it (by `rfl`, or
    by induction on the layout: both unfolded one step, the recursive calls rewritten with the induction hypothesis, `grind` for a
    body the source spells differently) -/
namespace Ref
open P0f
/-- one layout entry: the finished list at the EOL (`break`), else the option to append -/
def impOptionBody (s : Sig) (b : Base) (uptime : Option Int) (tcp_type : Nat) (option : Nat) (options : List SOpt) (rnd : Nat × Nat) :
    Sum (List SOpt) ((Option SOpt) × (List SOpt)) :=
  ((if (option == 2) then
    let j4 : Int × Int :=
      if (s.wtype == WinType.mss) then
        let u6_0 := (100, (Int.fdiv (65535 : Int) ((s.wsize : Nat) : Int)))
        let min_mss : Int := (u6_0.1 : Int)
        let max_mss : Int := u6_0.2
        (min_mss, max_mss)
      else
        let u6_0 := (0, 65535)
        let min_mss : Int := (u6_0.1 : Int)
        let max_mss : Int := (u6_0.2 : Int)
        (min_mss, max_mss)
    let min_mss := j4.1
    let max_mss := j4.2
    if ((optInt s.mss) == (-1)) then
      let impersonated_option : (Option SOpt) :=
        if ((Option.isSome b.mssHint) && ((Option.elim b.mssHint false (fun y => (decide (min_mss ≤ y)))) && (Option.elim b.mssHint false (fun x => (decide (x ≤ max_mss)))))) then
          let impersonated_option := (SOpt.mss (Int.toNat (Option.getD b.mssHint 0)))
          ((some impersonated_option))
        else
          let impersonated_option := (SOpt.mss rnd.1)
          ((some impersonated_option))
      (Sum.inr (impersonated_option, options))
    else
      let impersonated_option := (SOpt.mss (Int.toNat (optInt s.mss)))
      (Sum.inr ((some impersonated_option), options))
  else
    if (option == 3) then
      let impersonated_option : (Option SOpt) :=
        if ((optInt s.scale) == (-1)) then
          let max_window_scale : Int := (256 : Int)
          if (QSet.subsetOf (QSet.ofList [.exws]) s.quirks) then
            let impersonated_option : (Option SOpt) :=
              if ((Option.isSome b.wsHint) && ((Option.elim b.wsHint false (fun y => (decide ((14 : Int) < y)))) && (Option.elim b.wsHint false (fun x => (decide (x < max_window_scale)))))) then
                let impersonated_option := (SOpt.ws (Int.toNat (Option.getD b.wsHint 0)))
                ((some impersonated_option))
              else
                let impersonated_option := (SOpt.ws rnd.1)
                ((some impersonated_option))
            (impersonated_option)
          else
            let impersonated_option : (Option SOpt) :=
              if ((Option.isSome b.wsHint) && ((Option.elim b.wsHint false (fun y => (decide ((0 : Int) ≤ y)))) && (Option.elim b.wsHint false (fun x => (decide (x ≤ (14 : Int))))))) then
                let impersonated_option := (SOpt.ws (Int.toNat (Option.getD b.wsHint 0)))
                ((some impersonated_option))
              else
                let impersonated_option := (SOpt.ws rnd.1)
                ((some impersonated_option))
            (impersonated_option)
        else
          let impersonated_option := (SOpt.ws (Int.toNat (optInt s.scale)))
          ((some impersonated_option))
      (Sum.inr (impersonated_option, options))
    else
      Sum.elim (fun r => (Sum.inl r)) (fun (j5 : (Option SOpt) × (List SOpt)) =>
        let impersonated_option := j5.1
        let options := j5.2
        (Sum.inr (impersonated_option, options)))
        ((if (option == 8) then
          let max_ts : Int := (4294967296 : Int)
          let u7_3 := (b.ts1Hint, b.ts2Hint)
          let ts1 := u7_3.1
          let ts2 := u7_3.2
          let ts1 : (Option Int) :=
            if (QSet.subsetOf (QSet.ofList [.zeroTs1]) s.quirks) then
              let ts1 : Nat := 0
              ((some ts1))
            else
              if ((Option.isSome uptime) && ((Option.elim uptime false (fun y => (decide ((0 : Int) < y)))) && (Option.elim uptime false (fun x => (decide (x < max_ts)))))) then
                let ts1 : Option Int := uptime
                (ts1)
              else
                let ts1 : (Option Int) :=
                  if ((Option.isNone ts1) || (!((Option.elim ts1 false (fun y => (decide ((0 : Int) < y)))) && (Option.elim ts1 false (fun x => (decide (x < max_ts))))))) then
                    let ts1 : Nat := rnd.1
                    ((some ts1))
                  else
                    (ts1)
                (ts1)
          let ts2 : (Option Int) :=
            if (tcp_type == 2) then
              if (!(QSet.subsetOf (QSet.ofList [.nzTs2]) s.quirks)) then
                let ts2 : Nat := 0
                ((some ts2))
              else
                let ts2 : (Option Int) :=
                  if ((Option.isNone ts2) || (!((Option.elim ts2 false (fun y => (decide ((0 : Int) < y)))) && (Option.elim ts2 false (fun x => (decide (x < max_ts))))))) then
                    let ts2 : Nat := rnd.2
                    ((some ts2))
                  else
                    (ts2)
                (ts2)
            else
              if ((Option.isNone ts2) || (!((Option.elim ts2 false (fun y => (decide ((0 : Int) ≤ y)))) && (Option.elim ts2 false (fun x => (decide (x < max_ts))))))) then
                let ts2 : Nat := 0
                ((some ts2))
              else
                (ts2)
          let impersonated_option := (SOpt.ts (Int.toNat (Option.getD ts1 0)) (Int.toNat (Option.getD ts2 0)))
          (Sum.inr ((some impersonated_option), options))
        else
          if (option == 1) then
            let impersonated_option := SOpt.nop
            (Sum.inr ((some impersonated_option), options))
          else
            Sum.elim (fun r => (Sum.inl r)) (fun (j8 : (Option SOpt) × (List SOpt)) =>
              let impersonated_option := j8.1
              let options := j8.2
              (Sum.inr (impersonated_option, options)))
              ((if (option == 4) then
                let impersonated_option := SOpt.sackok
                (Sum.inr ((some impersonated_option), options))
              else
                if (option == 0) then
                  let padding := (if (QSet.subsetOf (QSet.ofList [.eolNz]) s.quirks) then SOpt.nop else SOpt.eol)
                  let options := options ++ [SOpt.eol]
                  let options := options ++ List.replicate s.eolPad padding
                  (Sum.inl (alignOptions options))
                else
                  let impersonated_option : (Option SOpt) :=
                    if (option == 5) then
                      let impersonated_option := (SOpt.sack 8)
                      ((some impersonated_option))
                    else
                      let impersonated_option := (SOpt.raw option 0)
                      ((some impersonated_option))
                  (Sum.inr (impersonated_option, options))) : Sum (List SOpt) ((Option SOpt) × (List SOpt)))) : Sum (List SOpt) ((Option SOpt) × (List SOpt)))) : Sum (List SOpt) ((Option SOpt) × (List SOpt)))

def impOptionsLoop (s : Sig) (b : Base) (uptime : Option Int) (c : Choices) (tcp_type : Nat) : List Nat → (List SOpt) → (List (Nat × Nat)) → List SOpt
  | [], options, _ =>
    (alignOptions options)
  | option :: xs, options, rnd_stream =>
    Sum.elim (fun r => r) (fun (j2 : (Option SOpt) × (List SOpt)) =>
      Option.elim j2.1 (
        (impOptionsLoop s b uptime c tcp_type xs j2.2 (List.tail rnd_stream))) (fun impersonated_option =>
        (impOptionsLoop s b uptime c tcp_type xs (j2.2 ++ [impersonated_option]) (List.tail rnd_stream))))
      (impOptionBody s b uptime tcp_type option options (List.headD rnd_stream (0, 0)))
end Ref

/-- the printed body of the layout loop is the model's `impOption`: at the EOL the list is finished, any other kind appends
    its one option -/
theorem impOptionBody_eq (s : Sig) (b : Base) (uptime : Option Int) (k : Nat) (options : List SOpt) (rnd : Nat × Nat) :
    Ref.impOptionBody s b uptime (impTcpType s b) k options rnd =
      if k = 0 then .inl (alignOptions (options ++ (impOption s b uptime k rnd).1))
      else .inr (some (plainOpt s b uptime k rnd), options) := by
  unfold Ref.impOptionBody
  by_cases h0 : k = 0
  · subst h0
    simp only [impOption, Nat.reduceBEq, Bool.false_eq_true, ↓reduceIte, beq_self_eq_true, Sum.elim_inl, subsetOf_single,
      List.append_assoc, List.singleton_append]
  rw [if_neg h0]
  -- the ranges the code spells with `<` (on `Int`, `a < v` is `a + 1 ≤ v` by definition)
  have r15 : ∀ v : Int, 14 < v ∧ v < 256 ↔ 15 ≤ v ∧ v ≤ 255 := fun _ => and_congr Iff.rfl Int.le_sub_one_iff.symm
  have rts : ∀ v : Int, 0 < v ∧ v < 4294967296 ↔ 1 ≤ v ∧ v ≤ 4294967295 := fun _ => and_congr Iff.rfl Int.le_sub_one_iff.symm
  have rts' : ∀ v : Int, 0 ≤ v ∧ v < 4294967296 ↔ 0 ≤ v ∧ v ≤ 4294967295 := fun _ => and_congr Iff.rfl Int.le_sub_one_iff.symm
  -- `simp` does not rewrite the `Decidable` instance of an `if`: put the SYN test into the model's spelling beforehand
  rw [show (impTcpType s b == 2) = (impTcpType s b == F_SYN) from rfl]
  rcases plainKind_of_ne_zero k h0 with rfl | rfl | rfl | rfl | rfl | rfl | ⟨-, h1, h2, h3, h4, h5, h8⟩
  -- the six known kinds (NOP, MSS, window scale, SACK permitted, timestamps, SACK); `(hint_code _ _ _).1` is a hint test in its
  -- positive spelling, `.2` in the negated one with the branches swapped
  iterate 6
    simp only [plainOpt, mssOf, wsOf, ts1Of, ts2Of, Nat.reduceBEq, Nat.reduceEqDiff, Bool.false_eq_true, ↓reduceIte, beq_self_eq_true,
      Sum.elim_inr, subsetOf_single, mssBounds_code, optInt_beq_wild, optInt_code,
      ← apply_ite SOpt.mss, ← apply_ite SOpt.ws, ← apply_ite some, ← apply_ite (·, options), ← apply_ite (Sum.inr (α := List SOpt)),
      apply_ite (fun o : Option Int => (o.getD 0).toNat), Option.getD_some, Int.toNat_natCast,
      (hint_code (fun _ => Iff.rfl) _ _).1, (hint_code r15 _ _).1, (hint_code rts _ _).1, (hint_code rts _ _).2, (hint_code rts' _ _).2]
  -- an unknown kind
  simp only [plainOpt, beq_iff_eq, h1, h2, h3, h4, h5, h8, h0, ↓reduceIte, Sum.elim_inr]

theorem ref_impOptionsLoop (s : Sig) (b : Base) (uptime : Option Int) (c : Choices) :
    ∀ (ks : List Nat) (options : List SOpt) (cs : List (Nat × Nat)),
      Ref.impOptionsLoop s b uptime c (impTcpType s b) ks options cs = alignOptions (options ++ impOptionsGo s b uptime ks cs) := by
  intro ks
  induction ks with
  | nil => intro options cs; simp only [Ref.impOptionsLoop, impOptionsGo, List.append_nil]
  | cons k ks ih =>
    intro options cs
    rw [Ref.impOptionsLoop, impOptionBody_eq, impOptionsGo, impOption_eq]
    by_cases h0 : k = 0
    · simp only [h0, ↓reduceIte, Sum.elim_inl]
    · simp only [h0, ↓reduceIte, Sum.elim_inr, Option.elim_some, ih, Bool.false_eq_true, List.append_assoc]

theorem gen_impOptionsLoop (s : Sig) (b : Base) (uptime : Option Int) (c : Choices) :
    ∀ (ks : List Nat) (options : List SOpt) (cs : List (Nat × Nat)),
      Gen.impOptions_loop0 s b uptime c (impTcpType s b) ks options cs = alignOptions (options ++ impOptionsGo s b uptime ks cs) := by
  first
  | (intro ks options cs; exact rfl)
  | (have h : ∀ (t : Nat) (ks : List Nat) (options : List SOpt) (cs : List (Nat × Nat)),
         Gen.impOptions_loop0 s b uptime c t ks options cs = Ref.impOptionsLoop s b uptime c t ks options cs := by
       intro t ks
       induction ks with
       | nil => intros; rfl
       | cons k ks ih =>
         intros
         unfold Gen.impOptions_loop0 Ref.impOptionsLoop Ref.impOptionBody
         -- the rewriting closes the goal when the body is the frozen copy's; `grind` for a body whose arms are reordered or
         -- split differently (refactors/rf82, hK)
         simp only [ih] <;> grind (splits := 120)
     intro ks options cs
     rw [h]
     exact ref_impOptionsLoop s b uptime c ks options cs)

/-- `_impersonate_options` as printed from the source = the model's: for every signature, base packet (hints), `uptime` and drawn
    values, the same list of option tuples - fixed values override hints, admissible hints are used, inadmissible ones replaced
    (C14), the layout, EOL padding and `ts1-` / `ts2+` / `exws` / `opt+` quirks of the signature reproduced (C05) -/
theorem gen_impOptions (s : Sig) (b : Base) (uptime : Option Int) (c : Choices) (hf : b.flags < 512) :
    Gen.impOptions s b uptime c = impOptions s b uptime c := by
  first
  | exact rfl
  | (unfold Gen.impOptions impOptions
     simp only [subsetOf_single]
     rw [codeTcpType_eq _ _ _ hf]
     exact gen_impOptionsLoop s b uptime c s.layout [] c.opt)

end P0f
