import P0f.LogicOk.Prelude
import P0f.LogicOk.TcpMatch
import P0f.LogicOk.GuessDistance
import P0f.Props.C02
import P0f.Generated.Logic.FindTcpMatch
namespace P0f

theorem gen_findLoop (recs : List Rec) (p : PSig) (d : Int) (l : List Rec) (g f : Option TcpMatch) :
    Gen.findTcpMatch_loop0 recs p d l g f = findLoop p d l f g := by
  first
  | exact rfl
  | (induction l generalizing g f with
     | nil =>
       unfold Gen.findTcpMatch_loop0 findLoop findFinish
       cases g <;> cases f <;> simp
     | cons r rs ih =>
       unfold Gen.findTcpMatch_loop0 findLoop
       rw [gen_tcpSignaturesMatch]
       -- the generic candidate is read only at an exact generic match, the fuzzy one only at a fuzzy match
       rcases tcpMatch r.sig p d with _ | _ | _ | _
       · simp [ih]
       · cases r.generic
         · simp
         · cases g <;> simp [ih]
       all_goals cases f <;> simp [ih])

theorem gen_findTcpMatch (recs : List Rec) (p : PSig) (d : Int) :
    Gen.findTcpMatch recs p d = findTcpMatch recs p d := by
  first
  | exact rfl
  | (unfold Gen.findTcpMatch findTcpMatch
     exact gen_findLoop recs p d recs none none)

/-- **C02 against the source text** -/
theorem source_findTcpMatch_eq_spec (recs : List Rec) (p : PSig) (d : Int) :
    Gen.findTcpMatch recs p d = specFind recs p d := by
  rw [gen_findTcpMatch]; exact findTcpMatch_eq_spec recs p d

end P0f
